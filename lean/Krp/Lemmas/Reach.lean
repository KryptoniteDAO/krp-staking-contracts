/-
  Reach.lean — from one message to transactions and to every reachable state of the composed system.

  A history is a list of `Step`s: top-level messages (executed atomically by `Sys.exec`, with all
  the sub-messages they cause, depth first) and environment events (`Sys.env`).  The lifts:
  `run_inv2` for a predicate of the state and the pending queue that every message handling keeps
  (`run_inv`, `exec_inv`, `steps_inv` for one of the state alone), `steps_inv2` from such a queue
  invariant to every history, `hub_steps_inv` for a property of the hub's state alone.  `Runs` and
  `run_cons` run a queue forwards, one handled message at a time.
-/
import Krp.Lemmas.Handle
namespace Krp
open Sys

inductive Step where
  | tx (m : Msg)
  | env (e : EnvOp)

def Sys.step (s : Sys) : Step → Sys
  | .tx m => (s.exec m).1
  | .env e => s.env e

def Sys.steps (s : Sys) (l : List Step) : Sys := l.foldl Sys.step s

theorem run_inv2 (P : Sys → List Msg → Prop)
    (hh : ∀ s m rest s' subs, P s (m :: rest) → s.handle m = .ok (s', subs) → P s' (subs ++ rest)) :
    ∀ (fuel : Nat) (s : Sys) (q : List Msg) (s' : Sys), P s q → Sys.run fuel s q = .ok s' → P s' [] := by
  intro fuel
  induction fuel with
  | zero =>
    intro s q s' hp hx
    cases q with
    | nil => simp only [Sys.run] at hx; cases hx; exact hp
    | cons m rest => simp only [Sys.run] at hx; cases hx
  | succ n ih =>
    intro s q s' hp hx
    cases q with
    | nil => simp only [Sys.run] at hx; cases hx; exact hp
    | cons m rest =>
      simp only [Sys.run] at hx
      split at hx
      · cases hx
      · rename_i s1 subs h1
        exact ih s1 _ s' (hh s m rest s1 subs hp h1) hx

theorem run_inv (P : Sys → Prop)
    (hh : ∀ s m s' ms, P s → s.handle m = .ok (s', ms) → P s') :
    ∀ (fuel : Nat) (s : Sys) (q : List Msg) (s' : Sys), P s → Sys.run fuel s q = .ok s' → P s' :=
  run_inv2 (fun s _ => P s) (fun s m _ s' subs => hh s m s' subs)

theorem exec_inv (P : Sys → Prop)
    (hh : ∀ s m s' ms, P s → s.handle m = .ok (s', ms) → P s') (s : Sys) (m : Msg) (hp : P s) :
    P (s.exec m).1 := by
  unfold Sys.exec
  split
  · rename_i s' h1; exact run_inv P hh 400 s [m] s' hp h1
  · exact hp

theorem steps_inv (P : Sys → Prop)
    (hh : ∀ s m s' ms, P s → s.handle m = .ok (s', ms) → P s')
    (he : ∀ s e, P s → P (s.env e)) :
    ∀ (l : List Step) (s : Sys), P s → P (s.steps l) := by
  intro l
  induction l with
  | nil => intro s hp; exact hp
  | cons st rest ih =>
    intro s hp
    show P ((s.step st).steps rest)
    apply ih
    cases st with
    | tx m => exact exec_inv P hh s m hp
    | env e => exact he s e hp

/-- `I` is what holds between transactions, `P` what holds while one runs, of the state and the
    messages still pending.  What is admissible (`ok`) may depend on the state reached. -/
theorem steps_inv2 (I : Sys → Prop) (P : Sys → List Msg → Prop) (ok : Sys → Step → Prop)
    (hstep : ∀ s m rest s' subs, P s (m :: rest) → s.handle m = .ok (s', subs) → P s' (subs ++ rest))
    (hpush : ∀ s m, I s → ok s (.tx m) → P s [m]) (hdrain : ∀ s, P s [] → I s)
    (henv : ∀ s e, I s → ok s (.env e) → I (s.env e)) :
    ∀ (l : List Step) (s : Sys), I s → (∀ pre st post, l = pre ++ st :: post → ok (s.steps pre) st) →
      I (s.steps l) := by
  intro l
  induction l with
  | nil => intro s hi _; exact hi
  | cons st rest ih =>
    intro s hi hok
    refine ih (s.step st) ?_ (fun pre st' post he => hok (st :: pre) st' post (by rw [he]; rfl))
    have h0 := hok [] st rest rfl
    cases st with
    | env e => exact henv s e hi h0
    | tx m =>
      show I (s.exec m).1
      unfold Sys.exec
      split
      · exact hdrain _ (run_inv2 P hstep 400 s [m] _ (hpush s m hi h0) ‹_›)
      · exact hi

theorem run_cons {n : Nat} {s s1 : Sys} {m : Msg} {subs q : List Msg} (h : s.handle m = .ok (s1, subs)) :
    Sys.run (n + 1) s (m :: q) = Sys.run n s1 (subs ++ q) := by
  simp only [Sys.run, h]

theorem run_ok_cons {n : Nat} {s s' : Sys} {m : Msg} {q : List Msg} (h : Sys.run (n + 1) s (m :: q) = .ok s') :
    ∃ s1 subs, s.handle m = .ok (s1, subs) ∧ Sys.run n s1 (subs ++ q) = .ok s' := by
  simp only [Sys.run] at h
  split at h
  · cases h
  · exact ⟨_, _, ‹_›, h⟩

theorem exec_top_fails (s : Sys) (m : Msg) (e : String) (hx : s.handle m = .error e) :
    s.exec m = (s, .error e) := by
  unfold Sys.exec
  simp only [Sys.run, hx]

theorem run_nil (n : Nat) (s : Sys) : Sys.run n s [] = .ok s := by cases n <;> rfl

/-- from `s`, the messages `q` at the head of the queue are worked off (sub-messages included) in
    `k` steps, leaving the state `s'` and the rest of the queue as it was -/
def Runs (k : Nat) (s : Sys) (q : List Msg) (s' : Sys) : Prop :=
  ∀ n rest, Sys.run (n + k) s (q ++ rest) = Sys.run n s' rest

theorem Runs.nil (s : Sys) : Runs 0 s [] s := fun _ _ => rfl

theorem Runs.step {s s1 s' : Sys} {m : Msg} {subs q : List Msg} {k : Nat}
    (h : s.handle m = .ok (s1, subs)) (r : Runs k s1 (subs ++ q) s') : Runs (k + 1) s (m :: q) s' := by
  intro n rest
  show Sys.run (n + k + 1) s (m :: (q ++ rest)) = _
  rw [run_cons h, ← List.append_assoc]
  exact r n rest

theorem Runs.append {s s1 s' : Sys} {q q' : List Msg} {k k' : Nat} (a : Runs k s q s1)
    (b : Runs k' s1 q' s') : Runs (k' + k) s (q ++ q') s' := by
  intro n rest
  rw [List.append_assoc, ← Nat.add_assoc, a, b]

theorem Runs.exec {s s' : Sys} {m : Msg} {k : Nat} (r : Runs k s [m] s') (hk : k ≤ 400) :
    s.exec m = (s', .ok ()) := by
  have h := r (400 - k) []
  rw [Nat.sub_add_cancel hk, List.append_nil, run_nil] at h
  simp only [Sys.exec, h]

theorem hub_steps_inv (Q : HubSt → Prop)
    (hq : ∀ h h' e sender funds m ms, Q h → hubExec h e sender funds m = .ok (h', ms) → Q h') :
    ∀ (l : List Step) (s : Sys), (∀ u b a, Step.env (.seedLegacy u b a) ∉ l) → Q s.hub → Q (s.steps l).hub := by
  intro l
  induction l with
  | nil => intro s _ h0; exact h0
  | cons st rest ih =>
    intro s hnl h0
    refine ih (s.step st) (fun u b a hm => hnl u b a (List.mem_cons_of_mem _ hm)) ?_
    cases st with
    | tx m =>
      refine exec_inv (fun x => Q x.hub) (fun x m' x' ms hp hx => ?_) s m h0
      rcases handle_hub_or_same hx with e | ⟨_, _, _, _, hx'⟩
      · rw [e]; exact hp
      · exact hq _ _ _ _ _ _ _ hp hx'
    | env e =>
      show Q (s.env e).hub
      rw [(env_same s e (fun u b a he => hnl u b a (he ▸ List.mem_cons_self ..))).hub]
      exact h0

theorem exec_rejected_hub (s : Sys) (sender : Addr) (funds : List (Denom × Nat)) (hm : HubMsg)
    (h : ∀ e, e.self = hubA → ∃ err, hubExec s.hub e sender funds hm = .error err) :
    ∃ err, s.exec (.wasm sender hubA (.hub hm) funds) = (s, .error err) := by
  cases hh : s.handle (.wasm sender hubA (.hub hm) funds) with
  | error e => exact ⟨e, exec_top_fails s _ e hh⟩
  | ok r =>
    obtain ⟨s1, _, _, hc, hmv, hr, _⟩ := handle_hub hh
    cases hc
    obtain ⟨err, he⟩ := h s1.hubEnv rfl
    rw [(moveFunds_same _ _ _ _ _ hmv).hub, he] at hr
    cases hr

theorem exec_rejected_disp (s : Sys) (sender : Addr) (funds : List (Denom × Nat)) (dm : DispMsg)
    (h : ∀ env, ∃ err, dispExec s.disp dispA env sender dm = .error err) :
    ∃ err, s.exec (.wasm sender dispA (.disp dm) funds) = (s, .error err) := by
  cases hh : s.handle (.wasm sender dispA (.disp dm) funds) with
  | error e => exact ⟨e, exec_top_fails s _ e hh⟩
  | ok r =>
    obtain ⟨s1, _, _, hc, hmv, hr, _⟩ := handle_disp hh
    cases hc
    obtain ⟨err, he⟩ := h s1.dispEnv
    rw [(moveFunds_same _ _ _ _ _ hmv).disp, he] at hr
    cases hr

theorem exec_rejected_reward (s : Sys) (sender : Addr) (funds : List (Denom × Nat)) (rm : RewMsg)
    (h : ∀ tk dp bb, ∃ err, rewardExec s.reward rewardA tk dp bb sender rm = .error err) :
    ∃ err, s.exec (.wasm sender rewardA (.reward rm) funds) = (s, .error err) := by
  cases hh : s.handle (.wasm sender rewardA (.reward rm) funds) with
  | error e => exact ⟨e, exec_top_fails s _ e hh⟩
  | ok r =>
    obtain ⟨s1, _, _, hc, hmv, hr, _⟩ := handle_reward hh
    cases hc
    rw [(moveFunds_same _ _ _ _ _ hmv).reward] at hr
    obtain ⟨err, he⟩ := h (s1.hubTokenOf s.reward.hub) (s1.hubDispatcherOf s.reward.hub) (s1.chain.bank rewardA)
    rw [he] at hr
    cases hr

end Krp
