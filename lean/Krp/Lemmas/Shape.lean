/-
  Shape.lean — the shape of the batch history in every state (C01, C09):

  * `HistInv`: history entries exist exactly for ids 1 … open−1, the released ones are exactly
    those up to `last_processed_batch`, entry times increase strictly with the id and never exceed
    `last_unbonded_time` — preserved by every hub message;
  * `release_complete`: a release processes *every* unreleased batch that has matured.
-/
import Krp.Props.C07
namespace Krp
open HubSt

structure HistInv (h : HubSt) : Prop where
  dom : ∀ i, h.hist i ≠ none ↔ (1 ≤ i ∧ i < h.batchId)
  rel : ∀ i x, h.hist i = some x → (x.released = true ↔ i ≤ h.lastProcessedBatch)
  lp : h.lastProcessedBatch < h.batchId
  times : ∀ i x, h.hist i = some x → x.time ≤ h.lastUnbondedTime
  mono : ∀ i j x y, h.hist i = some x → h.hist j = some y → i < j → x.time < y.time

theorem HistInv.of_same {h h' : HubSt} (inv : HistInv h) (hh : h'.hist = h.hist)
    (hb : h'.batchId = h.batchId) (hp : h'.lastProcessedBatch = h.lastProcessedBatch)
    (hu : h'.lastUnbondedTime = h.lastUnbondedTime) : HistInv h' := by
  refine ⟨?_, ?_, ?_, ?_, ?_⟩
  · intro i; rw [hh, hb]; exact inv.dom i
  · intro i x hx; rw [hh] at hx; rw [hp]; exact inv.rel i x hx
  · rw [hp, hb]; exact inv.lp
  · intro i x hx; rw [hh] at hx; rw [hu]; exact inv.times i x hx
  · intro i j x y hx hy; rw [hh] at hx hy; exact inv.mono i j x y hx hy

theorem HistInv.init (sender now epoch unb fee thr rd upd : Nat) (h : HubSt)
    (hx : hubInit sender now epoch unb fee thr rd upd = .ok h) : HistInv h := by
  unfold hubInit at hx
  split at hx
  · cases hx
  · injection hx with hx; subst hx
    refine ⟨?_, ?_, ?_, ?_, ?_⟩
    · intro i; simp; omega
    · intro i x hx; cases hx
    · show 0 < 1; omega
    · intro i x hx; cases hx
    · intro i j x y hx; cases hx

/-- closing the open batch (only after more than an epoch since the last undelegation) -/
theorem HistInv.undelegation (h h' : HubSt) (e : HubEnv) (ms : List Msg) (inv : HistInv h)
    (hg : h.lastUnbondedTime < e.now) (hx : h.processUndelegations e = .ok (h', ms)) : HistInv h' := by
  obtain ⟨_, _, _, _, _, _, _, _, _, bid, lu, hh, _, _, _, _, lp⟩ := processUndelegations_spec h h' e ms hx
  have hlp := inv.lp
  -- an entry of the new history is the one just written at the open id, or an old one below it
  have entry : ∀ i x, h'.hist i = some x →
      (i = h.batchId ∧ x.time = e.now ∧ x.released = false) ∨ (i < h.batchId ∧ h.hist i = some x) := by
    intro i x hxi
    rw [hh] at hxi
    by_cases hi : i = h.batchId
    · subst hi
      rw [upd_same] at hxi
      cases hxi
      exact Or.inl ⟨rfl, rfl, rfl⟩
    · rw [upd_other _ _ _ _ hi] at hxi
      exact Or.inr ⟨((inv.dom i).mp (by rw [hxi]; nofun)).2, hxi⟩
  refine ⟨fun i => ?_, fun i x hxi => ?_, by omega, fun i x hxi => ?_, fun i j x y hxi hyj hij => ?_⟩
  · rw [hh, bid]
    by_cases hi : i = h.batchId
    · subst hi
      rw [upd_same]
      exact ⟨fun _ => by omega, fun _ => nofun⟩
    · rw [upd_other _ _ _ _ hi, inv.dom i]
      omega
  · rw [lp]
    rcases entry i x hxi with ⟨rfl, _, hr⟩ | ⟨_, hxi⟩
    · rw [hr]
      exact ⟨nofun, fun hle => by omega⟩
    · exact inv.rel i x hxi
  · rw [lu]
    rcases entry i x hxi with ⟨_, ht, _⟩ | ⟨_, hxi⟩
    · exact Nat.le_of_eq ht
    · have := inv.times i x hxi
      omega
  · rcases entry j y hyj with ⟨rfl, ht, _⟩ | ⟨hj, hyj⟩
    · rcases entry i x hxi with ⟨rfl, _, _⟩ | ⟨_, hxi⟩
      · omega
      · have := inv.times i x hxi
        omega
    · rcases entry i x hxi with ⟨rfl, _, _⟩ | ⟨_, hxi⟩
      · omega
      · exact inv.mono i j x y hxi hyj hij

theorem releasable_shape (h : HubSt) (cutoff : Nat) : ∀ (fuel start d : Nat),
    ∃ k, (∀ i, i ∈ h.releasable cutoff fuel start ↔ (start ≤ i ∧ i < start + k)) ∧
      (h.releasable cutoff fuel start).getLastD d = (if k = 0 then d else start + k - 1) ∧
      k ≤ fuel ∧ (k < fuel → ∀ y, h.hist (start + k) = some y → y.time > cutoff ∨ y.released = true) := by
  intro fuel start d
  obtain ⟨k, he, hk, _, hs⟩ := releasable_eq h cutoff fuel start
  refine ⟨k, fun i => by rw [he, List.mem_range'_1], ?_, hk, hs⟩
  rw [he, List.getLastD_eq_getLast?, List.getLast?_range']
  split <;> rfl

theorem processWithdrawRate_lastUnb (h h1 : HubSt) (c b : Nat) (hx : h.processWithdrawRate c b = .ok h1) :
    h1.lastUnbondedTime = h.lastUnbondedTime ∧ h1.batchId = h.batchId := by
  obtain ⟨_, _, rfl⟩ := processWithdrawRate_shape hx
  exact ⟨rfl, rfl⟩

theorem delWait_fold_shape (ids : List Nat) (u : Addr) (h : HubSt) :
    (ids.foldl (fun hh i => hh.delWait u i) h).hist = h.hist ∧
    (ids.foldl (fun hh i => hh.delWait u i) h).batchId = h.batchId ∧
    (ids.foldl (fun hh i => hh.delWait u i) h).lastProcessedBatch = h.lastProcessedBatch ∧
    (ids.foldl (fun hh i => hh.delWait u i) h).lastUnbondedTime = h.lastUnbondedTime := by
  have k := foldl_keeps (fun g : HubSt => (g.hist, g.batchId, g.lastProcessedBatch, g.lastUnbondedTime))
    (fun hh i => hh.delWait u i) (fun _ _ => rfl) ids h
  simp only [Prod.mk.injEq] at k
  exact k

/-- **A release processes every unreleased batch that has matured**, and only those; afterwards
    the released batches are again exactly those up to `last_processed_batch`. -/
theorem release_complete (h h1 : HubSt) (cutoff bal : Nat) (inv : HistInv h)
    (hx : h.processWithdrawRate cutoff bal = .ok h1) :
    HistInv h1 ∧
    (∀ i x, h.hist i = some x → x.released = false → x.time ≤ cutoff → i ∈ h.releasable cutoff (h.batchId + 1) (h.lastProcessedBatch + 1)) ∧
    (∀ i x1, h1.hist i = some x1 → x1.released = false → x1.time > cutoff) := by
  obtain ⟨k, hm, hl, hk, hs⟩ := releasable_shape h cutoff (h.batchId + 1) (h.lastProcessedBatch + 1) h.lastProcessedBatch
  -- every id of the block is below the open batch
  have hbound : h.lastProcessedBatch + k < h.batchId := by
    by_cases hk0 : k = 0
    · have := inv.lp; omega
    · have hin : h.lastProcessedBatch + k ∈ h.releasable cutoff (h.batchId + 1) (h.lastProcessedBatch + 1) :=
        (hm _).mpr ⟨by omega, by omega⟩
      obtain ⟨x, hxi, _, _⟩ := releasable_mem h cutoff _ _ _ hin
      exact ((inv.dom _).mp (by rw [hxi]; simp)).2
  have hstop := hs (by omega)
  -- an unreleased matured `i` past the block contradicts the stop at the block's end: that id is not
  -- missing (`dom`: `i` above it has an entry), not immature (`mono`: `i` would be too), not released (`rel`)
  have complete : ∀ i x, h.hist i = some x → x.released = false → x.time ≤ cutoff →
      i ∈ h.releasable cutoff (h.batchId + 1) (h.lastProcessedBatch + 1) := by
    intro i x hxi hr ht
    refine (hm i).mpr ⟨Nat.lt_of_not_le fun hle => ?_, Nat.lt_of_not_le fun hle => ?_⟩
    · rw [(inv.rel i x hxi).mpr hle] at hr
      cases hr
    · have hdom := (inv.dom i).mp (by rw [hxi]; nofun)
      cases hj : h.hist (h.lastProcessedBatch + 1 + k) with
      | none => exact (inv.dom _).mpr ⟨by omega, by omega⟩ hj
      | some y =>
        rcases hstop y hj with hty | hry
        · rcases Nat.eq_or_lt_of_le hle with he | hlt
          · subst he
            cases hxi.symm.trans hj
            omega
          · have := inv.mono _ i y x hj hxi hlt
            omega
        · have := (inv.rel _ y hj).mp hry
          omega
  obtain ⟨elp, hhist⟩ := processWithdrawRate_hist h h1 cutoff bal hx
  obtain ⟨elu, ebid⟩ := processWithdrawRate_lastUnb h h1 cutoff bal hx
  have lp1 : h1.lastProcessedBatch = h.lastProcessedBatch + k := by
    rw [elp, hl]
    split <;> omega
  generalize h.releasable cutoff (h.batchId + 1) (h.lastProcessedBatch + 1) = R at hm hhist complete ⊢
  -- an entry of the new history comes from one with the same time, and is released exactly when
  -- its id is at most the end of the block
  have origin : ∀ i x1, h1.hist i = some x1 → ∃ x, h.hist i = some x ∧ x1.time = x.time ∧
      (x1.released = true ↔ i ≤ h.lastProcessedBatch + k) := by
    intro i x1 hx1
    by_cases hi : i ∈ R
    · obtain ⟨x, _, _, hxi, hx'⟩ := (hhist i).1 hi
      cases hx'.symm.trans hx1
      have := (hm i).mp hi
      exact ⟨x, hxi, rfl, iff_of_true rfl (by omega)⟩
    · rw [(hhist i).2 hi] at hx1
      have := (not_congr (hm i)).mp hi
      exact ⟨x1, hx1, rfl, (inv.rel i x1 hx1).trans ⟨fun _ => by omega, fun _ => by omega⟩⟩
  refine ⟨⟨fun i => ?_, fun i x1 hx1 => ?_, by omega, fun i x1 hx1 => ?_, fun i j x1 y1 hx1 hy1 hij => ?_⟩,
    complete, fun i x1 hx1 hr => ?_⟩
  · rw [ebid, ← inv.dom i]
    by_cases hi : i ∈ R
    · obtain ⟨x, _, _, hxi, hx'⟩ := (hhist i).1 hi
      rw [hxi, hx']
      exact iff_of_true nofun nofun
    · rw [(hhist i).2 hi]
  · obtain ⟨_, _, _, hrel⟩ := origin i x1 hx1
    rw [lp1]
    exact hrel
  · obtain ⟨x, hxi, ht, _⟩ := origin i x1 hx1
    rw [elu, ht]
    exact inv.times i x hxi
  · obtain ⟨x, hxi, e1, _⟩ := origin i x1 hx1
    obtain ⟨y, hyj, e2, _⟩ := origin j y1 hy1
    rw [e1, e2]
    exact inv.mono i j x y hxi hyj hij
  · -- unreleased afterwards: past the block, so unreleased before and not in the block
    obtain ⟨x, hxi, ht, hrel⟩ := origin i x1 hx1
    have hgt : ¬ i ≤ h.lastProcessedBatch + k := fun hle => by rw [hrel.mpr hle] at hr; cases hr
    have hrx : x.released = false := by
      cases hx : x.released
      · rfl
      · have := (inv.rel i x hxi).mp hx; omega
    rw [ht]
    refine Nat.lt_of_not_le fun htc => ?_
    have := (hm i).mp (complete i x hxi hrx htc)
    omega

/-- **Every hub message keeps the shape of the batch history.** -/
theorem HistInv.hub_step (h h' : HubSt) (e : HubEnv) (sender : Addr) (funds : List (Denom × Nat))
    (m : HubMsg) (ms : List Msg) (inv : HistInv h) (hl : h.legacy = [])
    (hx : hubExec h e sender funds m = .ok (h', ms)) : HistInv h' := by
  cases hubExec_classify h h' e sender funds m ms hl hx with
  | quiet q _ => exact inv.of_same q.keeps.same.hist q.keeps.same.batchId q.lastProc q.lastUnb
  | withdraw _ hp hw =>
    obtain ⟨_, h1, hpw, _, _, hh, _⟩ := withdraw_spec h h' e sender ms hw
    have r := (release_complete h h1 _ _ inv hpw).1
    subst hh
    have d := delWait_fold_shape (h1.finished sender).2 sender h1
    exact r.of_same d.1 d.2.1 d.2.2.1 d.2.2.2
  | unbond st h0 _ hst sh _ hcase =>
    have sb := (actualState_spec h st e hst).1
    have inv0 : HistInv h0 := inv.of_same (sh.hist.trans sb.hist) (sh.batchId.trans sb.batchId)
      (sh.lastProc.trans sb.lastProc) (sh.lastUnb.trans sb.lastUnb)
    rcases hcase with ⟨hg, um, last, hp, _, _⟩ | ⟨hh, _⟩
    · exact HistInv.undelegation h0 h' e um inv0 (by rw [sh.lastUnb]; omega) hp
    · rw [hh]; exact inv0

end Krp
