/-
  RatePending.lean — transactions that *start* with a slash still unrecognised.

  Until a handler with a slashing check runs nothing that prices moves, so that check produces
  exactly the pools the State query reported at the start (`actualState_congr`). That step
  (`recog_establishes`) establishes the invariant `RInv` (Lemmas/RateInv) relative to the *virtual*
  start state `virt` in which the recognition has already happened, and `RInv.step` carries it on.
  Two modes of waiting for it: `PInv` — still messages (Lemmas/Still), then one minting / redeeming
  hub entry point (a trigger); `PInvB` — no trigger anywhere in the queue (see "the second pending
  mode" below).
-/
import Krp.Lemmas.RateStep
namespace Krp
open HubSt

/-- the minting / redeeming hub entry points -/
def IsTrigHub (hm : HubMsg) : Prop := hm = .bond ∨ hm = .bondForStSei ∨ ∃ u a k, hm = .receive u a k

theorem IsTrigHub.trg {hm : HubMsg} (h : IsTrigHub hm) (a b : Addr) (d : List (Denom × Nat)) :
    Trg (.wasm a b (.hub hm) d) = true := by
  rcases h with rfl | rfl | ⟨u, x, k, rfl⟩ <;> rfl

/-- The slashing check reads of the hub's state the pools, requests, token addresses and stored
    rates, and of its environment the supplies, the total of the delegations and whether there are
    any. -/
theorem actualState_congr (h0 h : HubSt) (e0 e : HubEnv)
    (p1 : h.bBond = h0.bBond) (p2 : h.sBond = h0.sBond) (p3 : h.reqB = h0.reqB) (p4 : h.reqS = h0.reqS)
    (p5 : h.bsei = h0.bsei) (p6 : h.stsei = h0.stsei) (p7 : h.bRate = h0.bRate) (p8 : h.sRate = h0.sRate)
    (hsum : (e.delegations.map (·.2)).sum = (e0.delegations.map (·.2)).sum)
    (hne : e.delegations = [] ↔ e0.delegations = []) (hs : e.supplyOf = e0.supplyOf) :
    (h.actualState e).map (fun st => (st.bBond, st.sBond, st.bRate, st.sRate)) =
    (h0.actualState e0).map (fun st => (st.bBond, st.sBond, st.bRate, st.sRate)) := by
  have hbq : h.bSupplyQ e = h0.bSupplyQ e0 := by unfold bSupplyQ; rw [p5, hs]
  have hsq : h.sSupplyQ e = h0.sSupplyQ e0 := by unfold sSupplyQ; rw [p6, hs]
  unfold actualState
  rw [p1, p2, hbq, hsq, p3, p4, hsum]
  by_cases c1 : e0.delegations = []
  · rw [if_pos c1, if_pos (hne.mpr c1)]
    simp only [Except.map, p1, p2, p7, p8]
  · rw [if_neg c1, if_neg (mt hne.mp c1)]
    by_cases c2 : h0.bBond + h0.sBond = 0
    · rw [if_pos c2, if_pos c2]
      simp only [Except.map, p1, p2, p7, p8]
    · rw [if_neg c2, if_neg c2]
      cases h0.bSupplyQ e0 with
      | error err => rfl
      | ok bs =>
        cases h0.sSupplyQ e0 with
        | error err => rfl
        | ok ss =>
          simp only [bind, Except.bind]
          split
          · split <;> rfl
          · rfl

theorem actualState_transportW (h0 h : HubSt) (e0 e : HubEnv) (st0 : HubSt) (h0x : h0.actualState e0 = .ok st0)
    (p1 : h.bBond = h0.bBond) (p2 : h.sBond = h0.sBond) (p3 : h.reqB = h0.reqB) (p4 : h.reqS = h0.reqS)
    (p5 : h.bsei = h0.bsei) (p6 : h.stsei = h0.stsei) (p7 : h.bRate = h0.bRate) (p8 : h.sRate = h0.sRate)
    (hsum : (e.delegations.map (·.2)).sum = (e0.delegations.map (·.2)).sum)
    (hne : e.delegations = [] ↔ e0.delegations = []) (hs : e.supplyOf = e0.supplyOf) :
    ∃ st, h.actualState e = .ok st ∧ st.bBond = st0.bBond ∧ st.sBond = st0.sBond ∧
      st.bRate = st0.bRate ∧ st.sRate = st0.sRate := by
  have k := actualState_congr h0 h e0 e p1 p2 p3 p4 p5 p6 p7 p8 hsum hne hs
  rw [h0x] at k
  cases hh : h.actualState e with
  | error err => rw [hh] at k; cases k
  | ok st =>
    rw [hh] at k
    simp only [Except.map, Except.ok.injEq, Prod.mk.injEq] at k
    exact ⟨st, rfl, k⟩

theorem actualState_transport (h0 h : HubSt) (e0 e : HubEnv) (st0 : HubSt) (h0x : h0.actualState e0 = .ok st0)
    (p1 : h.bBond = h0.bBond) (p2 : h.sBond = h0.sBond) (p3 : h.reqB = h0.reqB) (p4 : h.reqS = h0.reqS)
    (p5 : h.bsei = h0.bsei) (p6 : h.stsei = h0.stsei) (p7 : h.bRate = h0.bRate) (p8 : h.sRate = h0.sRate)
    (hd : e.delegations = e0.delegations) (hs : e.supplyOf = e0.supplyOf) :
    ∃ st, h.actualState e = .ok st ∧ st.bBond = st0.bBond ∧ st.sBond = st0.sBond ∧
      st.bRate = st0.bRate ∧ st.sRate = st0.sRate :=
  actualState_transportW h0 h e0 e st0 h0x p1 p2 p3 p4 p5 p6 p7 p8 (by rw [hd]) (by rw [hd]) hs

/-- what the pending modes keep: everything that prices, and of the delegations their total and
    whether there are any (validator removal moves stake between validators) -/
structure SamePoolsW (s s' : Sys) : Prop where
  bBond : s'.hub.bBond = s.hub.bBond
  sBond : s'.hub.sBond = s.hub.sBond
  reqB : s'.hub.reqB = s.hub.reqB
  reqS : s'.hub.reqS = s.hub.reqS
  bRate : s'.hub.bRate = s.hub.bRate
  sRate : s'.hub.sRate = s.hub.sRate
  btok : s'.hub.bsei = s.hub.bsei
  stok : s'.hub.stsei = s.hub.stsei
  bSupply : s'.bsei.supply = s.bsei.supply
  sSupply : s'.stsei.supply = s.stsei.supply
  total : totalDelegated s' = totalDelegated s
  ne : s'.delegationsOf hubA = [] ↔ s.delegationsOf hubA = []

theorem SamePools.weak {s s' : Sys} (p : SamePools s s') : SamePoolsW s s' :=
  ⟨p.bBond, p.sBond, p.reqB, p.reqS, p.bRate, p.sRate, p.btok, p.stok, p.bSupply, p.sSupply,
   by unfold totalDelegated; rw [p.deleg], by unfold Sys.delegationsOf; rw [p.deleg, p.delegSet]⟩

theorem SamePoolsW.trans {a b c : Sys} (x : SamePoolsW a b) (y : SamePoolsW b c) : SamePoolsW a c :=
  ⟨y.bBond.trans x.bBond, y.sBond.trans x.sBond, y.reqB.trans x.reqB, y.reqS.trans x.reqS,
   y.bRate.trans x.bRate, y.sRate.trans x.sRate, y.btok.trans x.btok, y.stok.trans x.stok,
   y.bSupply.trans x.bSupply, y.sSupply.trans x.sSupply, y.total.trans x.total, y.ne.trans x.ne⟩

/-- the virtual start: the state a CheckSlashing at the start would have left -/
def virt (s0 : Sys) (st0 : HubSt) : Sys := { s0 with hub := st0 }

/-- **the trigger step from a pending state**: pools, requests, supplies and delegations are still
    those of the start `s0` (whatever slash is unrecognised there); a minting / redeeming hub entry
    point is handled; afterwards the invariant of the composed theorem holds relative to the pools
    the State query reported at the start -/
theorem recog_establishes (s0 s s' : Sys) (st0 : HubSt) (sender : Addr) (funds : List (Denom × Nat))
    (hm : HubMsg) (subs rest : List Msg)
    (hst0 : s0.hub.actualState s0.hubEnv = .ok st0)
    (sp : SamePoolsW s0 s) (c0 : ChainOK s0) (c : ChainOK s)
    (btok0 : s0.hub.bsei = some bseiA) (stok0 : s0.hub.stsei = some stseiA)
    (bwf : s.bsei.WF) (swf : s.stsei.WF) (bhub : s.bsei.hub = hubA) (shub : s.stsei.hub = hubA)
    (hd : s0.delegationsOf hubA ≠ []) (hz : s0.hub.bBond + s0.hub.sBond ≠ 0)
    (backB : 0 < st0.bBond ∨ s0.bsei.supply + s0.hub.reqB = 0)
    (backS : 0 < st0.sBond ∨ s0.stsei.supply + s0.hub.reqS = 0)
    (ht : IsTrigHub hm ∨ hm = .bondRewards)
    (rnt : NoTrg rest) (rns : ∀ x ∈ rest, isStake x = false) (rnf : NoFlow rest)
    (hx : s.handle (.wasm sender hubA (.hub hm) funds) = .ok (s', subs)) :
    RInv (virt s0 st0) s' (subs ++ rest) := by
  have btok : s.hub.bsei = some bseiA := sp.btok.trans btok0
  have stok : s.hub.stsei = some stseiA := sp.stok.trans stok0
  obtain ⟨a1, a2, a3, a4, a5, a6⟩ := static_step s s' _ subs hx btok stok bwf swf bhub shub
  obtain ⟨s1, _, h', hc, hmv, hr, rfl⟩ := handle_hub hx
  cases hc
  obtain ⟨_, rfl⟩ := moveFunds_chain hmv
  -- the funds that moved are bank balances: the hub is shown the delegations and supplies of `s`
  obtain ⟨e, hr, hself, hdel, hsupp⟩ : ∃ e : HubEnv, hubExec s.hub e sender funds hm = .ok (h', subs) ∧
      e.self = hubA ∧ e.delegations = s.hubEnv.delegations ∧ e.supplyOf = s.hubEnv.supplyOf := ⟨_, hr, rfl, rfl, rfl⟩
  have hT : ((e.delegations).map (·.2)).sum = totalDelegated s := by rw [hdel]; exact delegations_sum s c
  have hne : e.delegations = [] ↔ s0.hubEnv.delegations = [] := by rw [hdel]; exact sp.ne
  have hsup : e.supplyOf = s0.hubEnv.supplyOf := by
    rw [hsupp]
    funext a
    show s.supplyOf a = s0.supplyOf a
    unfold Sys.supplyOf; rw [sp.bSupply, sp.sSupply]
  have hbs : e.supplyOf bseiA = .ok s.bsei.supply := by rw [hsupp]; exact supplyOf_bsei s
  have hss : e.supplyOf stseiA = .ok s.stsei.supply := by rw [hsupp]; exact supplyOf_stsei s
  -- so the handler's own slashing check answers with the pools of `st0`, and the flow lemmas apply to those
  obtain ⟨st, hst, q1, q2, _, _⟩ := actualState_transportW s0.hub s.hub s0.hubEnv e st0 hst0
    sp.bBond sp.sBond sp.reqB sp.reqS sp.btok sp.stok sp.bRate sp.sRate
    (by rw [hT, delegations_sum s0 c0, sp.total]) hne hsup
  have hd1 : e.delegations ≠ [] := fun hh => hd (hne.mp hh)
  have hz1 : s.hub.bBond + s.hub.sBond ≠ 0 := by rw [sp.bBond, sp.sBond]; exact hz
  have sb0 := (actualState_spec s0.hub st0 s0.hubEnv hst0).1
  have rbV : rb0 (virt s0 st0) = rateOf st.bBond s.bsei.supply s.hub.reqB := by
    show rateOf st0.bBond s0.bsei.supply st0.reqB = _
    rw [sb0.reqB, q1, sp.bSupply, sp.reqB]
  have rsV : rs0 (virt s0 st0) = rateOf st.sBond s.stsei.supply s.hub.reqS := by
    show rateOf st0.sBond s0.stsei.supply st0.reqS = _
    rw [sb0.reqS, q2, sp.sSupply, sp.reqS]
  have trb : TR (rateOf st.bBond s.bsei.supply s.hub.reqB) st.bBond s.bsei.supply s.hub.reqB 0 0 := by
    rw [q1, sp.bSupply, sp.reqB]
    exact TR.of_ratio (rateOf_mul_le st0.bBond s0.bsei.supply s0.hub.reqB backB)
  have trs : TR (rateOf st.sBond s.stsei.supply s.hub.reqS) st.sBond s.stsei.supply s.hub.reqS 0 0 := by
    rw [q2, sp.sSupply, sp.reqS]
    exact TR.of_ratio (rateOf_mul_le st0.sBond s0.stsei.supply s0.hub.reqS backS)
  have fl : TR (rateOf st.bBond s.bsei.supply s.hub.reqB) h'.bBond s.bsei.supply h'.reqB
        (mintsTo bseiA subs) (burnsBy bseiA subs) ∧
      TR (rateOf st.sBond s.stsei.supply s.hub.reqS) h'.sBond s.stsei.supply h'.reqS
        (mintsTo stseiA subs) (burnsBy stseiA subs) := by
    rcases ht with ht | rfl
    · exact hub_flowG s.hub h' e sender funds hm subs hr (ht.trg _ _ _) hself btok stok _ _ hbs hss
        st hst hd1 hz1 trb trs
    · cases hubExec_route hr with
      | bondRewards _ hb =>
        simpa using flowG_bondR s.hub h' e sender funds subs hb hself st hst _ _ _ _ 0 0 0 0 trb trs
  have ht2 : hm = .bond ∨ hm = .bondForStSei ∨ (∃ u a k, hm = .receive u a k) ∨ hm = .bondRewards := by
    rcases ht with (r | r | r) | r
    · exact Or.inl r
    · exact Or.inr (Or.inl r)
    · exact Or.inr (Or.inr (Or.inl r))
    · exact Or.inr (Or.inr (Or.inr r))
  obtain ⟨pre, rest', hms, hp, hr', hle'⟩ := hub_books_stepG _ _ _ _ _ _ _ _ hself hT (Or.inr ⟨ht2, hd1, hz1⟩) hr
  obtain ⟨n1, n2, n3, n4⟩ := rnf
  refine ⟨⟨c.of_eq rfl rfl, pre, rest' ++ rest, by rw [hms, List.append_assoc], hp,
      List.forall_mem_append.mpr ⟨hr', rns⟩, hle'⟩,
    a1, a2, a3, a4, a5, a6, ?_, ?_, Or.inr (NoTrg.append (hubExec_noTrg _ _ _ _ _ _ _ hr) rnt)⟩
  · rw [rbV, mintsTo_append, burnsBy_append, n1, n3]; exact fl.1
  · rw [rsV, mintsTo_append, burnsBy_append, n2, n4]; exact fl.2

theorem trigger_establishes (s0 s s' : Sys) (st0 : HubSt) (sender : Addr) (funds : List (Denom × Nat))
    (hm : HubMsg) (subs : List Msg)
    (hst0 : s0.hub.actualState s0.hubEnv = .ok st0)
    (sp : SamePools s0 s) (c0 : ChainOK s0) (c : ChainOK s)
    (btok0 : s0.hub.bsei = some bseiA) (stok0 : s0.hub.stsei = some stseiA)
    (bwf : s.bsei.WF) (swf : s.stsei.WF) (bhub : s.bsei.hub = hubA) (shub : s.stsei.hub = hubA)
    (hd : s0.delegationsOf hubA ≠ []) (hz : s0.hub.bBond + s0.hub.sBond ≠ 0)
    (backB : 0 < st0.bBond ∨ s0.bsei.supply + s0.hub.reqB = 0)
    (backS : 0 < st0.sBond ∨ s0.stsei.supply + s0.hub.reqS = 0)
    (ht : IsTrigHub hm)
    (hx : s.handle (.wasm sender hubA (.hub hm) funds) = .ok (s', subs)) :
    RInv (virt s0 st0) s' (subs ++ []) :=
  recog_establishes s0 s s' st0 sender funds hm subs [] hst0 sp.weak c0 c btok0 stok0 bwf swf bhub shub hd hz backB backS
    (Or.inl ht) NoTrg.nil (fun _ h => by cases h) NoFlow.nil hx

/-- a pending queue: still messages, then one minting / redeeming hub entry point; pools, requests,
    supplies and delegations are those of the start -/
structure PInv (s0 s : Sys) (q : List Msg) : Prop where
  chain : ChainOK s
  pools : SamePools s0 s
  btok : s.hub.bsei = some bseiA
  stok : s.hub.stsei = some stseiA
  bwf : s.bsei.WF
  swf : s.stsei.WF
  bhub : s.bsei.hub = hubA
  shub : s.stsei.hub = hubA
  shape : ∃ Qs sender hm funds, q = Qs ++ [Msg.wasm sender hubA (.hub hm) funds] ∧ AllStill Qs ∧ IsTrigHub hm

theorem PInv.step_still (s0 s s' : Sys) (m : Msg) (rest subs : List Msg) (inv : PInv s0 s (m :: rest))
    (hm : Still m = true) (hx : s.handle m = .ok (s', subs)) : PInv s0 s' (subs ++ rest) := by
  have hs := handle_still s s' m subs hm hx
  obtain ⟨a1, a2, a3, a4, a5, a6⟩ := static_step s s' m subs hx inv.btok inv.stok inv.bwf inv.swf inv.bhub inv.shub
  refine ⟨inv.chain.of_eq hs.1.deleg hs.1.delegSet, inv.pools.trans hs.1, a1, a2, a3, a4, a5, a6, ?_⟩
  obtain ⟨Qs, sender, hm', funds, hq, hQ, ht⟩ := inv.shape
  cases Qs with
  | nil =>
    simp only [List.nil_append, List.cons.injEq] at hq
    have := still_not_trg m hm
    rw [hq.1, ht.trg] at this; cases this
  | cons a Qs' =>
    simp only [List.cons_append, List.cons.injEq] at hq
    obtain ⟨rfl, rfl⟩ := hq
    exact ⟨subs ++ Qs', sender, hm', funds, (List.append_assoc ..).symm,
      AllStill.append hs.2 (List.forall_mem_cons.mp hQ).2, ht⟩

/-- a transaction that starts with a token Send / SendFrom to the hub: once the token has run, the
    queue is pending -/
theorem PInv.after_send {s s1 : Sys} {sender tokA : Addr} {tm : TokMsg} {funds : List (Denom × Nat)}
    {subs : List Msg} (htok : tokA = bseiA ∨ tokA = stseiA) (hsend : sendsToHub hubA tm = true) (c : ChainOK s)
    (btok : s.hub.bsei = some bseiA) (stok : s.hub.stsei = some stseiA)
    (bwf : s.bsei.WF) (swf : s.stsei.WF) (bhub : s.bsei.hub = hubA) (shub : s.stsei.hub = hubA)
    (hx : s.handle (.wasm sender tokA (.tok tm) funds) = .ok (s1, subs)) : PInv s s1 (subs ++ []) := by
  obtain ⟨a1, a2, a3, a4, a5, a6⟩ := static_step s s1 _ subs hx btok stok bwf swf bhub shub
  obtain ⟨sp, pre, u, a, k, hsub, hpre⟩ := handle_send_hub htok hsend hx
  exact ⟨c.of_eq sp.deleg sp.delegSet, sp, a1, a2, a3, a4, a5, a6, pre, tokA, .receive u a k, [],
    by rw [hsub, List.append_nil], hpre, Or.inr (Or.inr ⟨u, a, k, rfl⟩)⟩

/-- **one message of a transaction that started with a slash pending**: either still pending, or the
    invariant of the composed theorem relative to the reported pools -/
theorem pending_step (s0 : Sys) (st0 : HubSt) (c0 : ChainOK s0)
    (hst0 : s0.hub.actualState s0.hubEnv = .ok st0)
    (btok0 : s0.hub.bsei = some bseiA) (stok0 : s0.hub.stsei = some stseiA)
    (hd : s0.delegationsOf hubA ≠ []) (hz : s0.hub.bBond + s0.hub.sBond ≠ 0)
    (hz0 : st0.bBond + st0.sBond ≠ 0)
    (backB : 0 < st0.bBond ∨ s0.bsei.supply + s0.hub.reqB = 0)
    (backS : 0 < st0.sBond ∨ s0.stsei.supply + s0.hub.reqS = 0)
    (s : Sys) (m : Msg) (rest : List Msg) (s' : Sys) (subs : List Msg)
    (inv : PInv s0 s (m :: rest) ∨ RInv (virt s0 st0) s (m :: rest))
    (hx : s.handle m = .ok (s', subs)) :
    PInv s0 s' (subs ++ rest) ∨ RInv (virt s0 st0) s' (subs ++ rest) := by
  rcases inv with p | r
  · by_cases hm : Still m = true
    · exact Or.inl (p.step_still s0 s s' m rest subs hm hx)
    · right
      obtain ⟨Qs, sender, hm', funds, hq, hQ, ht⟩ := p.shape
      cases Qs with
      | nil =>
        simp only [List.nil_append, List.cons.injEq] at hq
        obtain ⟨rfl, rfl⟩ := hq
        exact trigger_establishes s0 s s' st0 sender funds hm' subs hst0 p.pools c0 p.chain btok0 stok0
          p.bwf p.swf p.bhub p.shub hd hz backB backS ht hx
      | cons a Qs' =>
        simp only [List.cons_append, List.cons.injEq] at hq
        obtain ⟨rfl, _⟩ := hq
        exact absurd (hQ m (List.mem_cons_self ..)) hm
  · exact Or.inr (RInv.step (virt s0 st0) s s' m rest subs hz0 r hx)

/-! ### the second pending mode: no minting / redeeming entry point anywhere in the queue

  An index update (UpdateGlobalIndex, the dispatcher's DispatchRewards, BondRewards) or a validator
  removal (RemoveValidator, Redelegations, the hub's RedelegateProxy, the Redelegate messages) started
  with a slash pending (`PendQ`: these, the hub's UpdateConfig and every still message): until
  BondRewards runs — if it ever does — everything handled leaves pools, requests, supplies and stored
  rates alone and keeps the total of the delegations; BondRewards recognises the slash and hands
  over to `RInv`. -/

def PendQ : Msg → Bool
  | .redelegate .. => true
  | .wasm _ _ (.hub .updateGlobalIndex) _ => true
  | .wasm _ _ (.hub .bondRewards) _ => true
  | .wasm _ _ (.hub (.redelegateProxy ..)) _ => true
  | .wasm _ _ (.hub (.updateConfig ..)) _ => true
  | .wasm _ _ (.disp .dispatch) _ => true
  | .wasm _ _ (.reg (.remove _)) _ => true
  | .wasm _ _ (.reg (.redelegations _)) _ => true
  | m => Still m

def AllPendQ (q : List Msg) : Prop := ∀ m ∈ q, PendQ m = true

inductive PendShape : Msg → Prop where
  | ugi (a b : Addr) (d : List (Denom × Nat)) : PendShape (.wasm a b (.hub .updateGlobalIndex) d)
  | br (a b : Addr) (d : List (Denom × Nat)) : PendShape (.wasm a b (.hub .bondRewards) d)
  | proxy (a b src : Addr) (plan : List (Addr × Nat)) (d : List (Denom × Nat)) :
      PendShape (.wasm a b (.hub (.redelegateProxy src plan)) d)
  | uconfig (a b : Addr) (x1 x2 x3 x4 x5 x6 x7 : Option Addr) (d : List (Denom × Nat)) :
      PendShape (.wasm a b (.hub (.updateConfig x1 x2 x3 x4 x5 x6 x7)) d)
  | dispatch (a b : Addr) (d : List (Denom × Nat)) : PendShape (.wasm a b (.disp .dispatch) d)
  | remove (a b v : Addr) (d : List (Denom × Nat)) : PendShape (.wasm a b (.reg (.remove v)) d)
  | redelegations (a b v : Addr) (d : List (Denom × Nat)) : PendShape (.wasm a b (.reg (.redelegations v)) d)
  | redel (who src dst : Addr) (amt : Nat) : PendShape (.redelegate who src dst amt)

theorem pendq_cases (m : Msg) (h : PendQ m = true) (hs : Still m = false) : PendShape m := by
  -- on every other shape `PendQ` is `Still`
  have no : PendQ m = Still m → PendShape m := fun e => by rw [e, hs] at h; cases h
  cases m with
  | redelegate who src dst amt => exact .redel who src dst amt
  | wasm a b c d =>
    cases c with
    | hub hm => cases hm <;> first | exact no rfl | constructor
    | disp dm => cases dm <;> first | exact no rfl | constructor
    | reg rm => cases rm <;> first | exact no rfl | constructor
    | _ => exact no rfl
  | _ => exact no rfl

theorem pendq_not_trg (m : Msg) (h : PendQ m = true) : Trg m = false := by
  by_cases hs : Still m = true
  · exact still_not_trg m hs
  · have hs' : Still m = false := by simpa using hs
    cases pendq_cases m h hs' <;> rfl

theorem pendq_not_stake (m : Msg) (h : PendQ m = true) : isStake m = false := by
  cases m with
  | delegate a b c | undelegate a b c => cases h
  | _ => rfl

theorem pendq_flow (t : Addr) (m : Msg) (q : List Msg) (h : PendQ m = true) :
    mintsTo t (m :: q) = mintsTo t q ∧ burnsBy t (m :: q) = burnsBy t q := by
  refine flows_cons t m q (fun a tm d he => ?_)
  subst he
  cases tm <;> first | rfl | cases h

theorem AllPendQ.noTrg {q : List Msg} (h : AllPendQ q) : NoTrg q := fun m hm => pendq_not_trg m (h m hm)

theorem AllPendQ.noFlow {q : List Msg} (h : AllPendQ q) : NoFlow q := by
  induction q with
  | nil => exact NoFlow.nil
  | cons m q ih =>
    obtain ⟨hm, hq⟩ := List.forall_mem_cons.mp h
    obtain ⟨n1, n2, n3, n4⟩ := ih hq
    exact ⟨by rw [(pendq_flow bseiA m q hm).1]; exact n1, by rw [(pendq_flow stseiA m q hm).1]; exact n2,
      by rw [(pendq_flow bseiA m q hm).2]; exact n3, by rw [(pendq_flow stseiA m q hm).2]; exact n4⟩

theorem Emits.pendq {m x : Msg} (h : Emits m x) (hm : PendQ m = true)
    (hbr : ∀ a d, m ≠ .wasm a hubA (.hub .bondRewards) d) : PendQ x = true := by
  cases h with
  | swap => rfl
  | reward o => cases o <;> rfl
  | hub o => cases o <;> first | rfl | exact absurd rfl (hbr _ _) | cases hm
  | bsei o | stsei o | disp o | reg o => cases o <;> first | rfl | cases hm

/-- what DispatchRewards emits: transfers, at most a BondRewards, the reward contract's index update -/
theorem dispatch_pendq (c c' : DispSt) (self : Addr) (env : DispEnv) (sender : Addr) (ms : List Msg)
    (hx : dispExec c self env sender .dispatch = .ok (c', ms)) : c' = c ∧ AllPendQ ms := by
  refine ⟨?_, fun x h => by cases dispExec_out hx x h <;> rfl⟩
  simp only [dispExec] at hx
  exc_norm at hx
  exc_split at hx
  rfl

/-- UpdateGlobalIndex moves nothing that prices, and emits reward withdrawals, the dispatcher's swap
    and its dispatch -/
theorem ugi_keeps (h h' : HubSt) (e : HubEnv) (sender : Addr) (funds : List (Denom × Nat)) (ms : List Msg)
    (hx : hubExec h e sender funds .updateGlobalIndex = .ok (h', ms)) :
    h'.bBond = h.bBond ∧ h'.sBond = h.sBond ∧ h'.reqB = h.reqB ∧ h'.reqS = h.reqS ∧
    h'.bRate = h.bRate ∧ h'.sRate = h.sRate ∧ h'.bsei = h.bsei ∧ h'.stsei = h.stsei ∧ AllPendQ ms := by
  cases hubExec_route hx with
  | updateGlobalIndex _ hr =>
    obtain ⟨_, _, _, _, rfl⟩ := updateGlobal_spec hr
    exact ⟨rfl, rfl, rfl, rfl, rfl, rfl, rfl, rfl, fun x hm => by cases hubExec_out hx x hm <;> rfl⟩

/-- the owner's UpdateConfig moves nothing that prices (the token addresses are write-once) and emits
    at most the withdraw-address message -/
theorem uconfig_keeps (h h' : HubSt) (e : HubEnv) (sender : Addr) (funds : List (Denom × Nat))
    (x1 x2 x3 x4 x5 x6 x7 : Option Addr) (ms : List Msg) (hb : h.bsei = some bseiA) (hs : h.stsei = some stseiA)
    (hx : hubExec h e sender funds (.updateConfig x1 x2 x3 x4 x5 x6 x7) = .ok (h', ms)) :
    h'.bBond = h.bBond ∧ h'.sBond = h.sBond ∧ h'.reqB = h.reqB ∧ h'.reqS = h.reqS ∧
    h'.bRate = h.bRate ∧ h'.sRate = h.sRate ∧ h'.bsei = h.bsei ∧ h'.stsei = h.stsei ∧ AllPendQ ms := by
  cases hubExec_route hx with
  | updateConfig _ _ _ _ _ _ _ _ hr =>
    obtain ⟨_, h3, h4, rfl, _⟩ := updateConfig_spec hr
    have b3 : x3 = none := by
      cases x3 with
      | none => rfl
      | some v => rw [h3 rfl] at hb; cases hb
    have b4 : x4 = none := by
      cases x4 with
      | none => rfl
      | some v => rw [h4 rfl] at hs; cases hs
    subst b3 b4
    exact ⟨rfl, rfl, rfl, rfl, rfl, rfl, rfl, rfl, fun x hm => by cases hubExec_out hx x hm; rfl⟩

theorem redelegate_keeps (s s' : Sys) (who src dst : Addr) (amt : Nat) (subs : List Msg) (c : ChainOK s)
    (hx : s.handle (.redelegate who src dst amt) = .ok (s', subs)) :
    subs = [] ∧ ChainOK s' ∧ SamePoolsW s s' := by
  obtain ⟨_, hz, hdst, hne, _, hge, rfl, hs'⟩ := handle_redelegate hx
  have hsrc : src ∈ valUniverse := c.mem_of_pos (by omega)
  -- off the source, then onto the destination
  obtain ⟨c1, t1⟩ := c.restake (s' := { s with chain := { s.chain with
      deleg := upd s.chain.deleg src (s.chain.deleg src - amt),
      delegSet := upd s.chain.delegSet src (decide (s.chain.deleg src - amt > 0)) } })
    (x := s.chain.deleg src - amt) (b := decide (s.chain.deleg src - amt > 0)) hsrc
    (fun h => by have := of_decide_eq_false h; omega) rfl rfl
  obtain ⟨c2, t2⟩ := c1.restake (s' := s') hdst (b := true) nofun (by rw [hs']) (by rw [hs'])
  change _ + upd s.chain.deleg src (s.chain.deleg src - amt) dst =
    _ + (upd s.chain.deleg src (s.chain.deleg src - amt) dst + amt) at t2
  refine ⟨rfl, c2, ?_⟩
  subst hs'
  refine ⟨rfl, rfl, rfl, rfl, rfl, rfl, rfl, rfl, rfl, rfl, by omega, ?_⟩
  -- there is a delegation before (the source) and after (the destination)
  have before : s.delegationsOf hubA ≠ [] := by
    have hset : s.chain.delegSet src = true := by
      by_cases hh : s.chain.delegSet src = true
      · exact hh
      · have := c.unset src (by simpa using hh); omega
    apply List.ne_nil_of_mem (a := (src, s.chain.deleg src))
    unfold Sys.delegationsOf
    simp only [if_true, List.mem_map, List.mem_filter]
    exact ⟨src, ⟨hsrc, hset⟩, rfl⟩
  refine ⟨fun h => absurd h ?_, fun h => absurd h before⟩
  apply List.ne_nil_of_mem (a := (dst, _))
  unfold Sys.delegationsOf
  simp only [if_true, List.mem_map, List.mem_filter]
  exact ⟨dst, ⟨hdst, by simp [upd]⟩, rfl⟩

theorem handle_pendq {s s' : Sys} {m : Msg} {subs : List Msg}
    (hb : s.hub.bsei = some bseiA) (hs : s.hub.stsei = some stseiA) (hm : PendQ m = true)
    (hbr : ∀ a d, m ≠ .wasm a hubA (.hub .bondRewards) d) (hrd : ∀ w a b n, m ≠ .redelegate w a b n)
    (hx : s.handle m = .ok (s', subs)) : SamePools s s' ∧ AllPendQ subs := by
  refine ⟨?_, fun x h => (handle_emits hx x h).pendq hm hbr⟩
  by_cases hst : Still m = true
  · exact (handle_still s s' m subs hst hx).1
  · cases pendq_cases m hm (by simpa using hst) with
    | redel who src dst amt => exact absurd rfl (hrd _ _ _ _)
    | dispatch a b d | remove a b v d | redelegations a b v d => exact handle_other_pools hx (fun _ he => by cases he) (fun _ he => by cases he)
    | ugi a b d =>
      refine handle_hub_pools hx (fun e h' hr => ?_)
      obtain ⟨k1, k2, k3, k4, k5, k6, k7, k8, _⟩ := ugi_keeps _ _ _ _ _ _ hr
      simp only [HubSt.pools, k1, k2, k3, k4, k5, k6, k7, k8]
    | uconfig a b x1 x2 x3 x4 x5 x6 x7 d =>
      refine handle_hub_pools hx (fun e h' hr => ?_)
      obtain ⟨k1, k2, k3, k4, k5, k6, k7, k8, _⟩ := uconfig_keeps _ _ _ _ _ _ _ _ _ _ _ _ _ hb hs hr
      simp only [HubSt.pools, k1, k2, k3, k4, k5, k6, k7, k8]
    | proxy a b src plan d =>
      refine handle_hub_pools hx (fun e h' hr => ?_)
      cases hubExec_route hr with
      | redelegateProxy _ _ _ _ hh _ => subst hh; rfl
    | br a b d =>
      obtain ⟨s1, hmv, r⟩ := handle_wasm hx
      obtain ⟨_, rfl⟩ := moveFunds_chain hmv
      cases r with
      | hub => exact absurd rfl (hbr _ _)
      | sink _ hs' _ => subst hs'; exact ⟨rfl, rfl, rfl, rfl, rfl, rfl, rfl, rfl, rfl, rfl, rfl, rfl⟩

/-- the second pending mode: every queued message is in `PendQ`; pools, requests and supplies are those
    of the start, of the delegations only their total and whether there are any (`SamePoolsW`) -/
structure PInvB (s0 s : Sys) (q : List Msg) : Prop where
  chain : ChainOK s
  pools : SamePoolsW s0 s
  btok : s.hub.bsei = some bseiA
  stok : s.hub.stsei = some stseiA
  bwf : s.bsei.WF
  swf : s.stsei.WF
  bhub : s.bsei.hub = hubA
  shub : s.stsei.hub = hubA
  all : AllPendQ q

theorem PInvB.step (s0 : Sys) (st0 : HubSt) (c0 : ChainOK s0)
    (hst0 : s0.hub.actualState s0.hubEnv = .ok st0)
    (btok0 : s0.hub.bsei = some bseiA) (stok0 : s0.hub.stsei = some stseiA)
    (hd : s0.delegationsOf hubA ≠ []) (hz : s0.hub.bBond + s0.hub.sBond ≠ 0)
    (backB : 0 < st0.bBond ∨ s0.bsei.supply + s0.hub.reqB = 0)
    (backS : 0 < st0.sBond ∨ s0.stsei.supply + s0.hub.reqS = 0)
    (s s' : Sys) (m : Msg) (rest subs : List Msg) (inv : PInvB s0 s (m :: rest))
    (hx : s.handle m = .ok (s', subs)) :
    PInvB s0 s' (subs ++ rest) ∨ RInv (virt s0 st0) s' (subs ++ rest) := by
  obtain ⟨hm, hrest⟩ := List.forall_mem_cons.mp inv.all
  obtain ⟨a1, a2, a3, a4, a5, a6⟩ := static_step s s' m subs hx inv.btok inv.stok inv.bwf inv.swf inv.bhub inv.shub
  have keep : ChainOK s' → SamePoolsW s s' → AllPendQ subs → PInvB s0 s' (subs ++ rest) :=
    fun ck sp hs => ⟨ck, inv.pools.trans sp, a1, a2, a3, a4, a5, a6, List.forall_mem_append.mpr ⟨hs, hrest⟩⟩
  by_cases hbr : ∃ a d, m = .wasm a hubA (.hub .bondRewards) d
  · -- BondRewards recognises the slash
    obtain ⟨a, d, rfl⟩ := hbr
    exact Or.inr (recog_establishes s0 s s' st0 _ _ .bondRewards subs rest hst0 inv.pools c0 inv.chain btok0 stok0
      inv.bwf inv.swf inv.bhub inv.shub hd hz backB backS (Or.inr rfl) (AllPendQ.noTrg hrest)
      (fun x hx' => pendq_not_stake x (hrest x hx')) (AllPendQ.noFlow hrest) hx)
  by_cases hrd : ∃ w a b n, m = .redelegate w a b n
  · obtain ⟨w, a, b, n, rfl⟩ := hrd
    obtain ⟨rfl, ck, sp⟩ := redelegate_keeps s s' w a b n subs inv.chain hx
    exact Or.inl (keep ck sp (fun _ h => (List.not_mem_nil h).elim))
  have k := handle_pendq inv.btok inv.stok hm (fun a d he => hbr ⟨a, d, he⟩) (fun w a b n he => hrd ⟨w, a, b, n, he⟩) hx
  exact Or.inl (keep (inv.chain.of_eq k.1.deleg k.1.delegSet) k.1.weak k.2)

/-- the end of a run in which the slash was recognised: nothing is in flight any more, so the rates
    the State query reported at the start are true ratios of the final pools -/
theorem RInv.reported {s0 s' : Sys} {st0 : HubSt} (hst0 : s0.hub.actualState s0.hubEnv = .ok st0)
    (btok0 : s0.hub.bsei = some bseiA) (stok0 : s0.hub.stsei = some stseiA)
    (hd : s0.delegationsOf hubA ≠ []) (hz : s0.hub.bBond + s0.hub.sBond ≠ 0) (r : RInv (virt s0 st0) s' []) :
    st0.bRate * (s'.bsei.supply + s'.hub.reqB) ≤ s'.hub.bBond * D ∧
    st0.sRate * (s'.stsei.supply + s'.hub.reqS) ≤ s'.hub.sBond * D ∧
    s'.hub.bBond + s'.hub.sBond ≤ totalDelegated s' ∧
    s'.hub.bsei = some bseiA ∧ s'.hub.stsei = some stseiA ∧ ChainOK s' := by
  have f := checked_state s0.hub st0 s0.hubEnv hst0 btok0 stok0 _ _ (supplyOf_bsei s0) (supplyOf_stsei s0) hd hz
  have sb0 := (actualState_spec s0.hub st0 s0.hubEnv hst0).1
  have rbV : rb0 (virt s0 st0) = st0.bRate := by
    show rateOf st0.bBond s0.bsei.supply st0.reqB = _; rw [sb0.reqB, f.2.2.1]
  have rsV : rs0 (virt s0 st0) = st0.sRate := by
    show rateOf st0.sBond s0.stsei.supply st0.reqS = _; rw [sb0.reqS, f.2.2.2.1]
  have t := r.final
  rw [rbV, rsV] at t
  exact ⟨t.1, t.2, r.book.drained, r.btok, r.stok, r.book.chain⟩

/-- **the whole run of a pending queue**: at the end neither pool's true ratio is below the rate the
    State query reported at the start, and the books are within the delegations -/
theorem pending_run (s0 : Sys) (st0 : HubSt) (c0 : ChainOK s0)
    (hst0 : s0.hub.actualState s0.hubEnv = .ok st0)
    (btok0 : s0.hub.bsei = some bseiA) (stok0 : s0.hub.stsei = some stseiA)
    (hd : s0.delegationsOf hubA ≠ []) (hz : s0.hub.bBond + s0.hub.sBond ≠ 0)
    (hz0 : st0.bBond + st0.sBond ≠ 0)
    (backB : 0 < st0.bBond ∨ s0.bsei.supply + s0.hub.reqB = 0)
    (backS : 0 < st0.sBond ∨ s0.stsei.supply + s0.hub.reqS = 0)
    (n : Nat) (s : Sys) (q : List Msg) (s' : Sys) (inv : PInv s0 s q) (hrun : Sys.run n s q = .ok s') :
    st0.bRate * (s'.bsei.supply + s'.hub.reqB) ≤ s'.hub.bBond * D ∧
    st0.sRate * (s'.stsei.supply + s'.hub.reqS) ≤ s'.hub.sBond * D ∧
    s'.hub.bBond + s'.hub.sBond ≤ totalDelegated s' ∧
    s'.hub.bsei = some bseiA ∧ s'.hub.stsei = some stseiA ∧ ChainOK s' := by
  have fin := run_inv2 (fun a b => PInv s0 a b ∨ RInv (virt s0 st0) a b)
    (pending_step s0 st0 c0 hst0 btok0 stok0 hd hz hz0 backB backS) n s q s' (Or.inl inv) hrun
  rcases fin with p | r
  · obtain ⟨Qs, _, _, _, hq, _, _⟩ := p.shape
    cases Qs <;> cases hq
  · exact r.reported hst0 btok0 stok0 hd hz

/-- **the whole run of a queue in the second pending mode**: either nothing that prices has moved (the
    slash is still unrecognised and the State query answers what it answered), or BondRewards ran:
    then at the end neither pool's true ratio is below the rate the State query reported at the
    start, and the books are within the delegations -/
theorem pending_runB (s0 : Sys) (st0 : HubSt) (c0 : ChainOK s0)
    (hst0 : s0.hub.actualState s0.hubEnv = .ok st0)
    (btok0 : s0.hub.bsei = some bseiA) (stok0 : s0.hub.stsei = some stseiA)
    (hd : s0.delegationsOf hubA ≠ []) (hz : s0.hub.bBond + s0.hub.sBond ≠ 0)
    (hz0 : st0.bBond + st0.sBond ≠ 0)
    (backB : 0 < st0.bBond ∨ s0.bsei.supply + s0.hub.reqB = 0)
    (backS : 0 < st0.sBond ∨ s0.stsei.supply + s0.hub.reqS = 0)
    (n : Nat) (s : Sys) (q : List Msg) (s' : Sys) (inv : PInvB s0 s q) (hrun : Sys.run n s q = .ok s') :
    (SamePoolsW s0 s' ∧ ChainOK s') ∨
    (st0.bRate * (s'.bsei.supply + s'.hub.reqB) ≤ s'.hub.bBond * D ∧
     st0.sRate * (s'.stsei.supply + s'.hub.reqS) ≤ s'.hub.sBond * D ∧
     s'.hub.bBond + s'.hub.sBond ≤ totalDelegated s' ∧
     s'.hub.bsei = some bseiA ∧ s'.hub.stsei = some stseiA ∧ ChainOK s') := by
  have fin := run_inv2 (fun a b => PInvB s0 a b ∨ RInv (virt s0 st0) a b)
    (fun a m r a' sb h hx => by
      rcases h with p | r'
      · exact PInvB.step s0 st0 c0 hst0 btok0 stok0 hd hz backB backS a a' m r sb p hx
      · exact Or.inr (RInv.step (virt s0 st0) a a' m r sb hz0 r' hx))
    n s q s' (Or.inl inv) hrun
  rcases fin with p | r
  · exact Or.inl ⟨p.pools, p.chain⟩
  · exact Or.inr (r.reported hst0 btok0 stok0 hd hz)

end Krp
