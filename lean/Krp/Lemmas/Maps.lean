import Krp.Types
namespace Krp

def sumOn {α : Type} (ks : List α) (f : α → Nat) : Nat := (ks.map f).sum

@[simp] theorem sumOn_nil {α : Type} (f : α → Nat) : sumOn [] f = 0 := rfl
@[simp] theorem sumOn_cons {α : Type} (k : α) (ks : List α) (f : α → Nat) :
    sumOn (k :: ks) f = f k + sumOn ks f := by simp [sumOn]

theorem sumOn_congr {α : Type} (ks : List α) (f g : α → Nat) (h : ∀ k ∈ ks, f k = g k) :
    sumOn ks f = sumOn ks g := by
  induction ks with
  | nil => rfl
  | cons k ks ih =>
    simp only [sumOn_cons]
    rw [h k (by simp), ih (fun x hx => h x (by simp [hx]))]

theorem sumOn_filter {α : Type} (ks : List α) (p : α → Bool) (f : α → Nat) :
    sumOn (ks.filter p) f = sumOn ks (fun k => if p k then f k else 0) := by
  induction ks with
  | nil => rfl
  | cons k ks ih =>
    rw [List.filter_cons, sumOn_cons, ← ih]
    split
    · exact sumOn_cons ..
    · exact (Nat.zero_add _).symm

theorem sumOn_add {α : Type} (ks : List α) (f g : α → Nat) :
    sumOn ks (fun k => f k + g k) = sumOn ks f + sumOn ks g := by
  induction ks with
  | nil => rfl
  | cons k ks ih => simp only [sumOn_cons, ih]; omega

theorem sumOn_zero {α : Type} (ks : List α) (f : α → Nat) (h : ∀ k ∈ ks, f k = 0) : sumOn ks f = 0 := by
  induction ks with
  | nil => rfl
  | cons k ks ih =>
    simp only [sumOn_cons]
    rw [h k (by simp), ih (fun x hx => h x (by simp [hx]))]

theorem sumOn_le {α : Type} (ks : List α) (f g : α → Nat) (h : ∀ k ∈ ks, f k ≤ g k) :
    sumOn ks f ≤ sumOn ks g := by
  induction ks with
  | nil => exact Nat.le_refl _
  | cons k ks ih =>
    simp only [sumOn_cons]
    exact Nat.add_le_add (h k (List.mem_cons_self ..)) (ih fun x hx => h x (List.mem_cons_of_mem _ hx))

theorem sumOn_except_notin {α : Type} (ks : List α) (f g : α → Nat) (a : α)
    (h : ∀ k, k ≠ a → g k = f k) (ha : a ∉ ks) : sumOn ks g = sumOn ks f := by
  apply sumOn_congr
  intro k hk
  exact h k (fun e => ha (e ▸ hk))

theorem sumOn_except_in {α : Type} (ks : List α) (f g : α → Nat) (a : α)
    (h : ∀ k, k ≠ a → g k = f k) (hn : ks.Nodup) (ha : a ∈ ks) :
    sumOn ks g + f a = sumOn ks f + g a := by
  induction ks with
  | nil => cases ha
  | cons k ks ih =>
    simp only [sumOn_cons]
    have hn' := List.nodup_cons.mp hn
    by_cases hk : k = a
    · subst hk
      have := sumOn_except_notin ks f g k h hn'.1
      omega
    · have ha' : a ∈ ks := by
        cases ha with
        | head => exact absurd rfl hk
        | tail _ h' => exact h'
      have := ih hn'.2 ha'
      have := h k hk
      omega

theorem mem_addKey {α : Type} [DecidableEq α] (ks : List α) (k x : α) :
    x ∈ addKey ks k ↔ x = k ∨ x ∈ ks := by
  unfold addKey
  split
  · constructor
    · intro h; exact Or.inr h
    · intro h; cases h with
      | inl e => subst e; assumption
      | inr h => exact h
  · simp

theorem nodup_addKey {α : Type} [DecidableEq α] (ks : List α) (k : α) (h : ks.Nodup) :
    (addKey ks k).Nodup := by
  unfold addKey
  split
  · exact h
  · exact List.nodup_cons.mpr ⟨by assumption, h⟩

theorem sumOn_addKey {α : Type} [DecidableEq α] (ks : List α) (f g : α → Nat) (a : α)
    (h : ∀ k, k ≠ a → g k = f k) (hn : ks.Nodup) (hz : a ∉ ks → f a = 0) :
    sumOn (addKey ks a) g + f a = sumOn ks f + g a := by
  unfold addKey
  split
  · exact sumOn_except_in ks f g a h hn (by assumption)
  · rename_i hni
    simp only [sumOn_cons]
    have := sumOn_except_notin ks f g a h hni
    have := hz hni
    omega

end Krp
