/-
  Wiring.lean — the trusted configuration (E3) as an invariant of the composed system.

  `Wired s`: the six contracts point at each other (token → hub → dispatcher → reward contract →
  hub → token) and every owner / nominee is an outside account.  For each contract: which messages
  can change its configuration, and that they are accepted from its owner / nominee only.  Every
  message a contract emits is sent by that contract (`handle_sentBy`), so a message of anyone else
  leaves the wiring in place (`handle_wired`).
-/
import Krp.Lemmas.Reward
import Krp.Props.C18
namespace Krp
open Sys

/-- system addresses: the six contracts and the two stubs that emit or receive messages -/
def internal : List Addr := [hubA, bseiA, stseiA, rewardA, dispA, regA, swapA, sinkA]

def External (a : Addr) : Prop := a ∉ internal

structure Wired (s : Sys) : Prop where
  tokHub : s.bsei.hub = hubA
  hubDisp : s.hub.dispatcher = some dispA
  dispRw : s.disp.rewardContract = rewardA
  rwHub : s.reward.hub = hubA
  hubTok : s.hub.bsei = some bseiA
  hubOwner : External s.hub.creator
  hubNominee : External s.hub.newOwner
  dispOwner : External s.disp.owner
  dispNominee : External s.disp.newOwner
  rwOwner : External s.reward.owner
  rwNominee : External s.reward.newOwner

theorem Wired.rewardAddr {s : Sys} (w : Wired s) : s.bseiRewardAddr = .ok rewardA := by
  unfold Sys.bseiRewardAddr Sys.hubDispatcherOf
  rw [w.tokHub, if_pos rfl, w.hubDisp]
  exact congrArg Except.ok w.dispRw

theorem Wired.tokenOf {s : Sys} (w : Wired s) : s.hubTokenOf s.reward.hub = .ok bseiA := by
  unfold Sys.hubTokenOf
  rw [w.rwHub, if_pos rfl, w.hubTok]

open HubSt in
theorem Wired.keep {s s' : Sys} (w : Wired s) (b : s'.bsei.hub = s.bsei.hub) (h : SameConfig s.hub s'.hub)
    (d : s'.disp.rewardContract = s.disp.rewardContract ∧ s'.disp.owner = s.disp.owner ∧
      s'.disp.newOwner = s.disp.newOwner)
    (r : s'.reward.hub = s.reward.hub ∧ s'.reward.owner = s.reward.owner ∧
      s'.reward.newOwner = s.reward.newOwner) : Wired s' :=
  ⟨b.trans w.tokHub, h.dispatcher.trans w.hubDisp, d.1.trans w.dispRw, r.1.trans w.rwHub,
   h.bsei.trans w.hubTok, h.creator ▸ w.hubOwner, h.newOwner ▸ w.hubNominee, d.2.1 ▸ w.dispOwner,
   d.2.2 ▸ w.dispNominee, r.2.1 ▸ w.rwOwner, r.2.2 ▸ w.rwNominee⟩

theorem Wired.of_same {s s' : Sys} (h : SameContracts s s') (w : Wired s) : Wired s' :=
  w.keep (by rw [h.bsei]) (h.hub ▸ .refl _) (h.disp ▸ ⟨rfl, rfl, rfl⟩) (h.reward ▸ ⟨rfl, rfl, rfl⟩)

open HubSt in
/-- the hub's addresses and owner change only through UpdateConfig / SetOwner sent by the owner or
    AcceptOwnership sent by the nominee -/
theorem hubExec_config (h h' : HubSt) (e : HubEnv) (sender : Addr) (funds : List (Denom × Nat))
    (m : HubMsg) (ms : List Msg) (hx : hubExec h e sender funds m = .ok (h', ms)) :
    SameConfig h h' ∨ sender = h.creator ∨ sender = h.newOwner := by
  rcases (hubExec_frame hx).2 with c | ⟨_, _, _, _, _, _, _, _, hc⟩ | ⟨_, _, hs, _⟩ | ⟨_, hs, _⟩
  · exact .inl c
  · exact .inr (.inl (updateConfig_spec hc).1)
  · exact .inr (.inl hs)
  · exact .inr (.inr hs)

theorem dispExec_config (c c' : DispSt) (self : Addr) (env : DispEnv) (sender : Addr) (m : DispMsg)
    (ms : List Msg) (hx : dispExec c self env sender m = .ok (c', ms)) :
    (c'.rewardContract = c.rewardContract ∧ c'.owner = c.owner ∧ c'.newOwner = c.newOwner) ∨
    sender = c.owner ∨ sender = c.newOwner := by
  have sp := dispExec_spec hx
  cases m with
  | swap | dispatch => rw [sp.2]; exact .inl ⟨rfl, rfl, rfl⟩
  | acceptOwnership => exact .inr (.inr sp.1)
  | updateConfig | setOwner | updateSwapContract | updateSwapDenom | updateOracle => exact .inr (.inl sp.1)

/-- the fields of the reward contract that only its owner / nominee can change -/
structure RewardSt.SameConfig (r r' : RewardSt) : Prop where
  hub : r'.hub = r.hub
  owner : r'.owner = r.owner
  newOwner : r'.newOwner = r.newOwner
  rewardDenom : r'.rewardDenom = r.rewardDenom
  swapDenoms : r'.swapDenoms = r.swapDenoms
  swapContract : r'.swapContract = r.swapContract

theorem rewardExec_spec {r r' : RewardSt} {self : Addr} {tk dp : Res Addr} {bb : Denom → Nat}
    {sender : Addr} {m : RewMsg} {ms : List Msg} :
    rewardExec r self tk dp bb sender m = .ok (r', ms) →
    match m with
    | .updateConfig hub denom swap => sender = r.owner ∧ ms = [] ∧
      r' = { r with hub := hub.getD r.hub, rewardDenom := denom.getD r.rewardDenom,
                    swapContract := swap.getD r.swapContract }
    | .setOwner a => sender = r.owner ∧ ms = [] ∧ r' = { r with newOwner := a }
    | .acceptOwnership => sender = r.newOwner ∧ ms = [] ∧ r' = { r with owner := r.newOwner }
    | .updateSwapDenom d add => sender = r.owner ∧ ms = [] ∧
      r' = { r with swapDenoms := if add then r.swapDenoms ++ [d] else r.swapDenoms.filter (· ≠ d) }
    | .increase .. | .decrease .. => tk = .ok sender ∧ r.SameConfig r'
    | .updateGlobalIndex | .swapToRewardDenom => dp = .ok sender ∧ r.SameConfig r'
    | .claim _ => r.SameConfig r' := by
  intro hx
  cases rewardExec_route hx with
  | updateConfig _ _ _ hs hr hm | setOwner _ hs hr hm | acceptOwnership hs hr hm | updateSwapDenom _ _ hs hr hm =>
    exact ⟨hs, hm, hr⟩
  | increase _ _ _ hs _ hr | decrease _ _ _ hs _ _ _ hr | swapToRewardDenom hs hr | indexIdle hs _ hr
  | indexMoved hs _ _ hr =>
    subst hr
    exact ⟨hs, rfl, rfl, rfl, rfl, rfl, rfl⟩
  | claim _ _ _ _ _ hr =>
    subst hr
    exact ⟨rfl, rfl, rfl, rfl, rfl, rfl⟩

/-- a sender that is neither owner nor nominee leaves the configuration alone -/
theorem rewardExec_quiet {r r' : RewardSt} {self : Addr} {tk dp : Res Addr} {bb : Denom → Nat}
    {sender : Addr} {m : RewMsg} {ms : List Msg} (hx : rewardExec r self tk dp bb sender m = .ok (r', ms))
    (h1 : sender ≠ r.owner) (h2 : sender ≠ r.newOwner) : r.SameConfig r' := by
  have sp := rewardExec_spec hx
  cases m with
  | updateConfig | setOwner | updateSwapDenom => exact absurd sp.1 h1
  | acceptOwnership => exact absurd sp.1 h2
  | increase | decrease | updateGlobalIndex | swapToRewardDenom => exact sp.2
  | claim => exact sp

theorem rewardExec_config (r r' : RewardSt) (self : Addr) (tok dsp : Res Addr) (bal : Denom → Nat)
    (sender : Addr) (m : RewMsg) (ms : List Msg)
    (hx : rewardExec r self tok dsp bal sender m = .ok (r', ms)) :
    (r'.hub = r.hub ∧ r'.owner = r.owner ∧ r'.newOwner = r.newOwner) ∨
    sender = r.owner ∨ sender = r.newOwner := by
  by_cases h1 : sender = r.owner
  · exact .inr (.inl h1)
  by_cases h2 : sender = r.newOwner
  · exact .inr (.inr h2)
  have c := rewardExec_quiet hx h1 h2
  exact .inl ⟨c.hub, c.owner, c.newOwner⟩

theorem handle_wired (s s' : Sys) (m : Msg) (ms : List Msg) (w : Wired s) (hwf : s.bsei.WF)
    (hx : s.handle m = .ok (s', ms))
    (hsender : ∀ a b c d, m = .wasm a b c d →
      a ≠ s.hub.creator ∧ a ≠ s.hub.newOwner ∧ a ≠ s.disp.owner ∧ a ≠ s.disp.newOwner ∧
      a ≠ s.reward.owner ∧ a ≠ s.reward.newOwner) : Wired s' := by
  cases m with
  | wasm sender target call funds =>
    obtain ⟨n1, n2, n3, n4, n5, n6⟩ := hsender _ _ _ _ rfl
    obtain ⟨s1, hmv, r⟩ := handle_wasm hx
    obtain ⟨_, rfl⟩ := moveFunds_chain hmv
    cases r with
    | hub hm h' hr hs =>
      subst hs
      exact w.keep rfl ((hubExec_config _ _ _ _ _ _ _ hr).resolve_right (not_or.mpr ⟨n1, n2⟩))
        ⟨rfl, rfl, rfl⟩ ⟨rfl, rfl, rfl⟩
    | bsei tm t' hr hs =>
      subst hs
      exact w.keep (C18_bsei_step _ _ _ _ _ _ _ _ _ hwf hr).2.2.2 (.refl _) ⟨rfl, rfl, rfl⟩ ⟨rfl, rfl, rfl⟩
    | disp dm d' hr hs =>
      subst hs
      exact w.keep rfl (.refl _) ((dispExec_config _ _ _ _ _ _ _ hr).resolve_right (not_or.mpr ⟨n3, n4⟩))
        ⟨rfl, rfl, rfl⟩
    | reward rm r' hr hs =>
      subst hs
      exact w.keep rfl (.refl _) ⟨rfl, rfl, rfl⟩
        ((rewardExec_config _ _ _ _ _ _ _ _ _ hr).resolve_right (not_or.mpr ⟨n5, n6⟩))
    | stsei _ _ _ hs | reg _ _ _ hs | swap _ _ _ _ _ _ _ hs _ | sink _ hs _ =>
      subst hs
      exact w.keep rfl (.refl _) ⟨rfl, rfl, rfl⟩ ⟨rfl, rfl, rfl⟩
  | _ => exact w.of_same (handle_chain_same hx fun _ _ _ _ h => nomatch h)

end Krp
