/-
  RateHub.lean — what each pricing handler of the hub does to the true-ratio predicate `TR`
  (Lemmas/RateFlow). Every such handler starts with its own slashing check and prices with the state
  `st0` that check produces, whatever it recognises; the lemmas are about `st0`. With no slash pending
  `st0`'s pools are the stored ones (`C06_no_slash_no_change`), which gives `hub_flow`; with one
  pending they are what the State query already reported.
-/
import Krp.Lemmas.RateInv
import Krp.Props.C06
namespace Krp
open HubSt

theorem flows_stake_append (t : Addr) {pre : List Msg} (hpre : ∀ m ∈ pre, isStake m = true) (q : List Msg) :
    mintsTo t (pre ++ q) = mintsTo t q ∧ burnsBy t (pre ++ q) = burnsBy t q := by
  obtain ⟨a, b⟩ := flows_of_stake t pre hpre
  rw [mintsTo_append, burnsBy_append, a, b, Nat.zero_add, Nat.zero_add]
  exact ⟨rfl, rfl⟩

theorem flows_mint_burn (t mt bt : Addr) (u a b : Nat) :
    mintsTo t [tokMsg hubA mt (.mint u a), tokMsg hubA bt (.burn b)] = (if mt = t then a else 0) ∧
    burnsBy t [tokMsg hubA mt (.mint u a), tokMsg hubA bt (.burn b)] = (if bt = t then b else 0) := by
  have e : [tokMsg hubA mt (.mint u a), tokMsg hubA bt (.burn b)] =
      [tokMsg hubA mt (.mint u a)] ++ [tokMsg hubA bt (.burn b)] := rfl
  rw [e, mintsTo_append, burnsBy_append, (flows_mint t mt u a).1, (flows_mint t mt u a).2,
    (flows_burn t bt b).1, (flows_burn t bt b).2, Nat.add_zero, Nat.zero_add]
  exact ⟨rfl, rfl⟩

theorem flows_of_map {α : Type} (t : Addr) (f : α → Msg) (l : List α) (hf : ∀ x a b c d, f x ≠ .wasm a b c d) :
    mintsTo t (l.map f) = 0 ∧ burnsBy t (l.map f) = 0 := by
  apply flows_of_plain
  intro m hm
  obtain ⟨x, _, rfl⟩ := List.mem_map.mp hm
  exact hf x

theorem TR.of_ratio {r B S R : Nat} (h : r * (S + R) ≤ B * D) : TR r B S R 0 0 := by
  unfold TR
  rw [Nat.add_zero, Nat.mul_zero, Nat.add_zero]
  exact h

/-- `p` of backing comes in, at most `p·D/r` claims are minted -/
theorem TR.mint {r B S R p m : Nat} (h : TR r B S R 0 0) (hm : m * r ≤ p * D) : TR r (B + p) S R m 0 := by
  unfold TR at *
  simp only [Nat.add_zero, Nat.mul_zero] at h ⊢
  rw [show S + m + R = S + R + m by omega]
  exact rate_mono_add r B (S + R) p m h hm

/-- `v` of backing goes out against `a` claims being burnt, worth at least that -/
theorem TR.burn {r B S R a v : Nat} (h : TR r B S R 0 0) (hv : v * D ≤ a * r) (hvB : v ≤ B) :
    TR r (B - v) S R 0 a := by
  unfold TR at *
  simp only [Nat.add_zero, Nat.mul_zero] at h ⊢
  rw [Nat.sub_mul, Nat.mul_comm r a]
  have : v * D ≤ B * D := Nat.mul_le_mul_right _ hvB
  omega

/-- a request of `w ≤ a` joins the open batch while `a` claims are being burnt -/
theorem TR.request {r B S R a w : Nat} (h : TR r B S R 0 0) (hw : w ≤ a) : TR r B S (R + w) 0 a := by
  unfold TR at *
  simp only [Nat.add_zero, Nat.mul_zero] at h ⊢
  rw [show S + (R + w) = (S + R) + w by omega, Nat.mul_add]
  have : r * w ≤ r * a := Nat.mul_le_mul_left _ hw
  omega

/-- the open batch, joined by `a` claims being burnt, is closed: `M` of backing goes out for it -/
theorem TR.close {r B S R a M : Nat} (h : TR r B S R 0 0) (hM : M * D ≤ (R + a) * r) (hMB : M ≤ B) :
    TR r (B - M) S 0 0 a := by
  unfold TR at *
  simp only [Nat.add_zero, Nat.mul_zero] at h ⊢
  rw [Nat.sub_mul]
  rw [Nat.mul_add, Nat.mul_comm r R] at h
  rw [Nat.add_mul, Nat.mul_comm a r] at hM
  have : M * D ≤ B * D := Nat.mul_le_mul_right _ hMB
  omega

/-- the same when `a` claims are burnt, `w ≤ a` of them join the batch, and the batch is paid at the
    rate re-derived after that (Unbond of bSei): the new rate is no lower than `r` -/
theorem TR.close_repriced {r B S R a w M : Nat} (h : TR r B S R 0 0) (ha : a ≤ S) (hw : w ≤ a)
    (hM : M * D ≤ (R + w) * rateOf B (S - a) (R + w)) (hMB : M ≤ B) : TR r (B - M) S 0 0 a := by
  unfold TR at *
  simp only [Nat.add_zero, Nat.mul_zero] at h ⊢
  have k3 : r * S = r * (S - a) + r * a := by rw [← Nat.mul_add, Nat.sub_add_cancel ha]
  by_cases hB : B = 0
  · subst hB
    have : r * S ≤ r * (S + R) := Nat.mul_le_mul_left _ (Nat.le_add_right _ _)
    omega
  · by_cases hC : (S - a) + (R + w) = 0
    · have h1 : S - a = 0 := by omega
      rw [k3, h1, Nat.mul_zero, Nat.zero_add]
      exact Nat.le_add_left _ _
    · have hρ := rateOf_mul_le B (S - a) (R + w) (Or.inl (Nat.pos_of_ne_zero hB))
      have hr : r ≤ rateOf B (S - a) (R + w) := by
        apply le_rateOf _ _ _ _ (Nat.pos_of_ne_zero hB) (Nat.pos_of_ne_zero hC)
        refine Nat.le_trans (Nat.mul_le_mul_left _ ?_) h
        omega
      generalize rateOf B (S - a) (R + w) = ρ at hρ hr hM
      rw [Nat.sub_mul]
      rw [Nat.mul_add] at hρ
      rw [Nat.mul_comm (R + w) ρ] at hM
      have k2 : r * (S - a) ≤ ρ * (S - a) := Nat.mul_le_mul_right _ hr
      have : M * D ≤ B * D := Nat.mul_le_mul_right _ hMB
      omega

theorem minted_le (st : HubSt) (S v mint : Nat) (hfee : st.pegFeeOnMint S (decDiv v st.bRate) v = .ok mint) :
    mint * st.bRate ≤ v * D :=
  Nat.le_trans (Nat.mul_le_mul_right _ (pegFeeOnMint_spec st _ _ _ _ hfee).1) (decDiv_mul_le v st.bRate)

theorem flowG_bondB (h h' : HubSt) (e : HubEnv) (sender : Addr) (funds : List (Denom × Nat)) (ms : List Msg)
    (hx : h.bondB e sender funds = .ok (h', ms)) (hself : e.self = hubA) (hb : h.bsei = some bseiA)
    (st0 : HubSt) (hst0 : h.actualState e = .ok st0) (bs ss rs : Nat)
    (trb : TR st0.bRate st0.bBond bs st0.reqB 0 0) (trs : TR rs st0.sBond ss st0.reqS 0 0) :
    TR st0.bRate h'.bBond bs h'.reqB (mintsTo bseiA ms) (burnsBy bseiA ms) ∧
    TR rs h'.sBond ss h'.reqS (mintsTo stseiA ms) (burnsBy stseiA ms) := by
  obtain ⟨p, st, mint, delegs, tok, _, hst, _, hfee, hdel, htok, rfl, rfl⟩ := bondB_spec h h' e sender funds ms hx
  obtain rfl : st0 = st := Except.ok.inj (hst0.symm.trans hst)
  obtain rfl : bseiA = tok := Option.some.inj (hb.symm.trans htok)
  have stk := (delegs_stake h e p delegs hself hdel).1
  simp only [hself, flows_stake_append _ stk, flows_mint, if_true, if_neg bsei_ne_stsei]
  exact ⟨trb.mint (minted_le st0 _ p mint hfee), trs⟩

theorem flowG_bondS (h h' : HubSt) (e : HubEnv) (sender : Addr) (funds : List (Denom × Nat)) (ms : List Msg)
    (hx : h.bondS e sender funds = .ok (h', ms)) (hself : e.self = hubA) (hs : h.stsei = some stseiA)
    (st0 : HubSt) (hst0 : h.actualState e = .ok st0) (bs ss rb : Nat)
    (trb : TR rb st0.bBond bs st0.reqB 0 0) (trs : TR st0.sRate st0.sBond ss st0.reqS 0 0) :
    TR rb h'.bBond bs h'.reqB (mintsTo bseiA ms) (burnsBy bseiA ms) ∧
    TR st0.sRate h'.sBond ss h'.reqS (mintsTo stseiA ms) (burnsBy stseiA ms) := by
  obtain ⟨p, st, delegs, tok, _, hst, _, hdel, htok, rfl, rfl⟩ := bondS_spec h h' e sender funds ms hx
  obtain rfl : st0 = st := Except.ok.inj (hst0.symm.trans hst)
  obtain rfl : stseiA = tok := Option.some.inj (hs.symm.trans htok)
  have stk := (delegs_stake h e p delegs hself hdel).1
  simp only [hself, flows_stake_append _ stk, flows_mint, if_true, if_neg bsei_ne_stsei.symm]
  exact ⟨trb, trs.mint (decDiv_mul_le p st0.sRate)⟩

/-- BondRewards, with anything in flight: the stSei pool grows, nothing else moves, nothing is minted -/
theorem flowG_bondR (h h' : HubSt) (e : HubEnv) (sender : Addr) (funds : List (Denom × Nat)) (ms : List Msg)
    (hx : h.bondR e sender funds = .ok (h', ms)) (hself : e.self = hubA)
    (st0 : HubSt) (hst0 : h.actualState e = .ok st0)
    (rb rs bs ss mb ub m2 u2 : Nat)
    (trb : TR rb st0.bBond bs h.reqB mb ub) (trs : TR rs st0.sBond ss h.reqS m2 u2) :
    TR rb h'.bBond bs h'.reqB (mintsTo bseiA ms + mb) (burnsBy bseiA ms + ub) ∧
    TR rs h'.sBond ss h'.reqS (mintsTo stseiA ms + m2) (burnsBy stseiA ms + u2) := by
  obtain ⟨p, st, _, _, hst, hdel, rfl⟩ := bondR_spec h h' e sender funds ms hx
  obtain rfl : st0 = st := Except.ok.inj (hst0.symm.trans hst)
  have sb := (actualState_spec h st0 e hst0).1
  have stk := (delegs_stake h e p ms hself hdel).1
  simp only [flows_of_stake _ ms stk, Nat.zero_add, sb.reqB, sb.reqS]
  exact ⟨trb, trs.mono (Nat.le_add_right _ _)⟩

theorem flowG_convertSB (h h' : HubSt) (e : HubEnv) (amount : Nat) (user : Addr) (ms : List Msg)
    (hx : h.convertSB e amount user = .ok (h', ms))
    (hself : e.self = hubA) (hb : h.bsei = some bseiA) (hs : h.stsei = some stseiA)
    (st0 : HubSt) (hst0 : h.actualState e = .ok st0) (bs ss : Nat)
    (trb : TR st0.bRate st0.bBond bs st0.reqB 0 0) (trs : TR st0.sRate st0.sBond ss st0.reqS 0 0) :
    TR st0.bRate h'.bBond bs h'.reqB (mintsTo bseiA ms) (burnsBy bseiA ms) ∧
    TR st0.sRate h'.sBond ss h'.reqS (mintsTo stseiA ms) (burnsBy stseiA ms) := by
  obtain ⟨st, sTok, bTok, _, _, mint, hst, hsT, hbT, _, _, _, hfee, hle, _, rfl, rfl⟩ :=
    convertSB_spec h h' e amount user ms hx
  obtain rfl : st0 = st := Except.ok.inj (hst0.symm.trans hst)
  obtain rfl : bseiA = bTok := Option.some.inj (hb.symm.trans hbT)
  obtain rfl : stseiA = sTok := Option.some.inj (hs.symm.trans hsT)
  simp only [hself, flows_mint_burn, if_true, if_neg bsei_ne_stsei, if_neg bsei_ne_stsei.symm]
  exact ⟨trb.mint (minted_le st0 _ _ mint hfee), trs.burn (mulDec_mul_le amount st0.sRate) hle⟩

theorem flowG_convertBS (h h' : HubSt) (e : HubEnv) (amount : Nat) (user : Addr) (ms : List Msg)
    (hx : h.convertBS e amount user = .ok (h', ms))
    (hself : e.self = hubA) (hb : h.bsei = some bseiA) (hs : h.stsei = some stseiA)
    (st0 : HubSt) (hst0 : h.actualState e = .ok st0) (bs ss : Nat)
    (trb : TR st0.bRate st0.bBond bs st0.reqB 0 0) (trs : TR st0.sRate st0.sBond ss st0.reqS 0 0) :
    TR st0.bRate h'.bBond bs h'.reqB (mintsTo bseiA ms) (burnsBy bseiA ms) ∧
    TR st0.sRate h'.sBond ss h'.reqS (mintsTo stseiA ms) (burnsBy stseiA ms) := by
  obtain ⟨st, sTok, bTok, bs', _, withFee, hst, hsT, hbT, _, _, hfee, _, hle, _, rfl, rfl⟩ :=
    convertBS_spec h h' e amount user ms hx
  obtain rfl : st0 = st := Except.ok.inj (hst0.symm.trans hst)
  obtain rfl : bseiA = bTok := Option.some.inj (hb.symm.trans hbT)
  obtain rfl : stseiA = sTok := Option.some.inj (hs.symm.trans hsT)
  have hv : mulDec withFee st0.bRate * D ≤ amount * st0.bRate :=
    Nat.le_trans (mulDec_mul_le _ _) (Nat.mul_le_mul_right _ (pegFeeOnBurn_spec st0 bs' amount withFee hfee).1)
  simp only [hself, flows_mint_burn, if_true, if_neg bsei_ne_stsei, if_neg bsei_ne_stsei.symm]
  exact ⟨trb.burn hv hle, trs.mint (decDiv_mul_le _ st0.sRate)⟩

/-- Unbond (stSei): the request joins the open batch and the tokens are burnt; if the epoch has
    passed the whole batch is then undelegated at the rates of the check -/
theorem flowG_unbondS (h h' : HubSt) (e : HubEnv) (amount : Nat) (user : Addr) (ms : List Msg)
    (hx : h.unbondS e amount user = .ok (h', ms)) (hself : e.self = hubA) (hs : h.stsei = some stseiA)
    (st0 : HubSt) (hst0 : h.actualState e = .ok st0) (bs ss : Nat)
    (trb : TR st0.bRate st0.bBond bs st0.reqB 0 0) (trs : TR st0.sRate st0.sBond ss st0.reqS 0 0) :
    TR st0.bRate h'.bBond bs h'.reqB (mintsTo bseiA ms) (burnsBy bseiA ms) ∧
    TR st0.sRate h'.sBond ss h'.reqS (mintsTo stseiA ms) (burnsBy stseiA ms) := by
  obtain ⟨st, tok, hst, _, htok, hcase⟩ := unbondS_spec h h' e amount user ms hx
  obtain rfl : st0 = st := Except.ok.inj (hst0.symm.trans hst)
  obtain rfl : stseiA = tok := Option.some.inj (hs.symm.trans htok)
  rcases hcase with ⟨_, um, hp, rfl⟩ | ⟨_, rfl, rfl⟩
  · obtain ⟨hpick, hls, hlb, es, eb, _, _, rb0, rs0, _⟩ := processUndelegations_spec _ _ _ _ hp
    have stk := (undelegs_stake e _ um hself hpick).1
    simp only [afterUnbondS, addWait] at hls hlb es eb
    simp only [hself, flows_stake_append _ stk, flows_burn, if_true, if_neg bsei_ne_stsei.symm, rb0, rs0, es, eb]
    exact ⟨trb.close (a := 0) (mulDec_mul_le _ _) hlb, trs.close (mulDec_mul_le _ _) hls⟩
  · simp only [hself, flows_burn, if_true, if_neg bsei_ne_stsei.symm, afterUnbondS, addWait]
    exact ⟨trb, trs.request (Nat.le_refl amount)⟩

/-- Unbond (bSei): as for stSei, but the request is what is left after the peg fee and the bSei rate
    is re-derived before the batch is paid -/
theorem flowG_unbondB (h h' : HubSt) (e : HubEnv) (amount : Nat) (user : Addr) (ms : List Msg)
    (hx : h.unbondB e amount user = .ok (h', ms)) (hself : e.self = hubA) (hb : h.bsei = some bseiA)
    (st0 : HubSt) (hst0 : h.actualState e = .ok st0) (bs ss : Nat) (hq : st0.bSupplyQ e = .ok bs)
    (trb : TR st0.bRate st0.bBond bs st0.reqB 0 0) (trs : TR st0.sRate st0.sBond ss st0.reqS 0 0) :
    TR st0.bRate h'.bBond bs h'.reqB (mintsTo bseiA ms) (burnsBy bseiA ms) ∧
    TR st0.sRate h'.sBond ss h'.reqS (mintsTo stseiA ms) (burnsBy stseiA ms) := by
  obtain ⟨st, supply, withFee, tok, hst, hsup, hfee, hle, _, htok, hcase⟩ := unbondB_spec h h' e amount user ms hx
  obtain rfl : st0 = st := Except.ok.inj (hst0.symm.trans hst)
  obtain rfl : bseiA = tok := Option.some.inj (hb.symm.trans htok)
  obtain rfl : bs = supply := Except.ok.inj (hq.symm.trans hsup)
  have hw : withFee ≤ amount := (pegFeeOnBurn_spec st0 bs amount withFee hfee).1
  rcases hcase with ⟨_, um, hp, rfl⟩ | ⟨_, rfl, rfl⟩
  · obtain ⟨hpick, hls, hlb, es, eb, _, _, rb0, rs0, _⟩ := processUndelegations_spec _ _ _ _ hp
    have stk := (undelegs_stake e _ um hself hpick).1
    simp only [afterUnbondB, addWait] at hls hlb es eb
    simp only [hself, flows_stake_append _ stk, flows_burn, if_true, if_neg bsei_ne_stsei, rb0, rs0, es, eb]
    exact ⟨trb.close_repriced hle hw (mulDec_mul_le _ _) hlb, trs.close (a := 0) (mulDec_mul_le _ _) hls⟩
  · simp only [hself, flows_burn, if_true, if_neg bsei_ne_stsei, afterUnbondB, addWait]
    exact ⟨trb.request hw, trs⟩

theorem trg_checks (h h' : HubSt) (e : HubEnv) (sender : Addr) (funds : List (Denom × Nat)) (m : HubMsg)
    (ms : List Msg) (hx : hubExec h e sender funds m = .ok (h', ms))
    (htr : Trg (.wasm sender hubA (.hub m) funds) = true) : ∃ st0, h.actualState e = .ok st0 := by
  cases hubExec_route hx with
  | bond _ hr =>
    obtain ⟨_, st, _, _, _, _, hst, _⟩ := bondB_spec h h' e sender funds ms hr
    exact ⟨st, hst⟩
  | bondForStSei _ hr =>
    obtain ⟨_, st, _, _, _, hst, _⟩ := bondS_spec h h' e sender funds ms hr
    exact ⟨st, hst⟩
  | convertBS user amt _ _ _ _ hr =>
    obtain ⟨st, _, _, _, _, _, hst, _⟩ := convertBS_spec h h' e amt user ms hr
    exact ⟨st, hst⟩
  | convertSB user amt _ _ _ _ _ hr =>
    obtain ⟨st, _, _, _, _, _, hst, _⟩ := convertSB_spec h h' e amt user ms hr
    exact ⟨st, hst⟩
  | unbondB user amt _ _ _ _ hr =>
    obtain ⟨st, _, _, _, hst, _⟩ := unbondB_spec h h' e amt user ms hr
    exact ⟨st, hst⟩
  | unbondS user amt _ _ _ _ _ hr =>
    obtain ⟨st, _, hst, _⟩ := unbondS_spec h h' e amt user ms hr
    exact ⟨st, hst⟩
  | _ => cases htr

/-- the slashing check at the head of a handler, slash or not, in a non-degenerate state: requests
    as stored, rates re-derived from its own pools and the supplies -/
theorem checked_state (h st : HubSt) (e : HubEnv) (hst : h.actualState e = .ok st)
    (hb : h.bsei = some bseiA) (hs : h.stsei = some stseiA)
    (bs ss : Nat) (hbs : e.supplyOf bseiA = .ok bs) (hss : e.supplyOf stseiA = .ok ss)
    (hd : e.delegations ≠ []) (hz : h.bBond + h.sBond ≠ 0) :
    st.reqB = h.reqB ∧ st.reqS = h.reqS ∧
    st.bRate = rateOf st.bBond bs h.reqB ∧ st.sRate = rateOf st.sBond ss h.reqS ∧
    st.bSupplyQ e = .ok bs ∧ st.sSupplyQ e = .ok ss := by
  obtain ⟨sb, ⟨hc, _⟩ | ⟨bs', ss', _, _, hbs', hss', hrb, hrs, _⟩⟩ := actualState_spec h st e hst
  · rcases hc with hc | hc
    · exact absurd hc hd
    · exact absurd hc hz
  · simp only [bSupplyQ, hb, hbs] at hbs'
    simp only [sSupplyQ, hs, hss] at hss'
    obtain rfl := Except.ok.inj hbs'
    obtain rfl := Except.ok.inj hss'
    refine ⟨sb.reqB, sb.reqS, hrb, hrs, ?_, ?_⟩
    · simp only [bSupplyQ, sb.bsei, hb, hbs]
    · simp only [sSupplyQ, sb.stsei, hs, hss]

/-- **every minting / redeeming hub entry point (the triggers), slash pending or not**: the true ratios
    of the pools the handler's own slashing check produces are carried to the pools it leaves, with
    what it emits in flight -/
theorem hub_flowG (h h' : HubSt) (e : HubEnv) (sender : Addr) (funds : List (Denom × Nat)) (m : HubMsg)
    (ms : List Msg) (hx : hubExec h e sender funds m = .ok (h', ms))
    (htr : Trg (.wasm sender hubA (.hub m) funds) = true)
    (hself : e.self = hubA) (hb : h.bsei = some bseiA) (hs : h.stsei = some stseiA)
    (bs ss : Nat) (hbs : e.supplyOf bseiA = .ok bs) (hss : e.supplyOf stseiA = .ok ss)
    (st0 : HubSt) (hst0 : h.actualState e = .ok st0)
    (hd : e.delegations ≠ []) (hz : h.bBond + h.sBond ≠ 0)
    (trb : TR (rateOf st0.bBond bs h.reqB) st0.bBond bs h.reqB 0 0)
    (trs : TR (rateOf st0.sBond ss h.reqS) st0.sBond ss h.reqS 0 0) :
    TR (rateOf st0.bBond bs h.reqB) h'.bBond bs h'.reqB (mintsTo bseiA ms) (burnsBy bseiA ms) ∧
    TR (rateOf st0.sBond ss h.reqS) h'.sBond ss h'.reqS (mintsTo stseiA ms) (burnsBy stseiA ms) := by
  -- in `st0`'s own terms: the rates it stores are the re-derived ones, and the handlers price with those
  obtain ⟨qB, qS, rB, rS, hq, _⟩ := checked_state h st0 e hst0 hb hs bs ss hbs hss hd hz
  rw [← rB] at trb ⊢
  rw [← rS] at trs ⊢
  rw [← qB] at trb
  rw [← qS] at trs
  cases hubExec_route hx with
  | bond _ hr => exact flowG_bondB h h' e sender funds ms hr hself hb st0 hst0 bs ss _ trb trs
  | bondForStSei _ hr => exact flowG_bondS h h' e sender funds ms hr hself hs st0 hst0 bs ss _ trb trs
  | convertBS user amt _ _ _ _ hr => exact flowG_convertBS h h' e amt user ms hr hself hb hs st0 hst0 bs ss trb trs
  | convertSB user amt _ _ _ _ _ hr => exact flowG_convertSB h h' e amt user ms hr hself hb hs st0 hst0 bs ss trb trs
  | unbondB user amt _ _ _ _ hr => exact flowG_unbondB h h' e amt user ms hr hself hb st0 hst0 bs ss hq trb trs
  | unbondS user amt _ _ _ _ _ hr => exact flowG_unbondS h h' e amt user ms hr hself hs st0 hst0 bs ss trb trs
  | _ => cases htr

theorem TR.carried {h h' : HubSt} {ms : List Msg}
    (k : h'.bBond = h.bBond ∧ h'.sBond = h.sBond ∧ h'.reqB = h.reqB ∧ h'.reqS = h.reqS ∧
      ∀ t, mintsTo t ms = 0 ∧ burnsBy t ms = 0)
    {rb rs bs ss mb ub m2 u2 : Nat} (trb : TR rb h.bBond bs h.reqB mb ub) (trs : TR rs h.sBond ss h.reqS m2 u2) :
    TR rb h'.bBond bs h'.reqB (mintsTo bseiA ms + mb) (burnsBy bseiA ms + ub) ∧
    TR rs h'.sBond ss h'.reqS (mintsTo stseiA ms + m2) (burnsBy stseiA ms + u2) := by
  obtain ⟨e1, e2, e3, e4, w⟩ := k
  rw [e1, e2, e3, e4, (w bseiA).1, (w bseiA).2, (w stseiA).1, (w stseiA).2]
  simp only [Nat.zero_add]
  exact ⟨trb, trs⟩

/-- **every hub message that is not still** (Lemmas/Still), in one statement: the minting handlers
    (the triggers) on fresh pools, the others with anything in flight -/
theorem hub_flow (h h' : HubSt) (e : HubEnv) (sender : Addr) (funds : List (Denom × Nat)) (m : HubMsg)
    (ms : List Msg) (hx : hubExec h e sender funds m = .ok (h', ms))
    (hns : Still (.wasm sender hubA (.hub m) funds) = false)
    (hself : e.self = hubA) (hb : h.bsei = some bseiA) (hs : h.stsei = some stseiA)
    (bs ss : Nat) (hbs : e.supplyOf bseiA = .ok bs) (hss : e.supplyOf stseiA = .ok ss)
    (ns : h.bBond + h.sBond ≤ (e.delegations.map (·.2)).sum)
    (rb rs mb ub m2 u2 : Nat)
    (trb : TR rb h.bBond bs h.reqB mb ub) (trs : TR rs h.sBond ss h.reqS m2 u2)
    (fresh : Trg (.wasm sender hubA (.hub m) funds) = true →
      mb = 0 ∧ ub = 0 ∧ m2 = 0 ∧ u2 = 0 ∧ rb = rateOf h.bBond bs h.reqB ∧ rs = rateOf h.sBond ss h.reqS ∧
      e.delegations ≠ [] ∧ h.bBond + h.sBond ≠ 0) :
    TR rb h'.bBond bs h'.reqB (mintsTo bseiA ms + mb) (burnsBy bseiA ms + ub) ∧
    TR rs h'.sBond ss h'.reqS (mintsTo stseiA ms + m2) (burnsBy stseiA ms + u2) := by
  by_cases htr : Trg (.wasm sender hubA (.hub m) funds) = true
  · -- a trigger: with nothing slashed the check leaves the stored pools, so this is `hub_flowG`
    obtain ⟨rfl, rfl, rfl, rfl, rfl, rfl, hd, hz⟩ := fresh htr
    obtain ⟨st0, hst0⟩ := trg_checks h h' e sender funds m ms hx htr
    obtain ⟨eb, es, _⟩ := C06_no_slash_no_change h st0 e hst0 ns
    rw [← eb] at trb
    rw [← es] at trs
    have k := hub_flowG h h' e sender funds m ms hx htr hself hb hs bs ss hbs hss st0 hst0 hd hz trb trs
    rw [eb, es] at k
    exact k
  · cases hubExec_route hx with
    | bondRewards _ hr =>
      obtain ⟨_, st0, _, _, hst0, _⟩ := bondR_spec h h' e sender funds ms hr
      obtain ⟨eb, es, _⟩ := C06_no_slash_no_change h st0 e hst0 ns
      rw [← eb] at trb
      rw [← es] at trs
      exact flowG_bondR h h' e sender funds ms hr hself st0 hst0 rb rs bs ss mb ub m2 u2 trb trs
    | checkSlashing _ hst hm =>
      subst hm
      have c := C06_no_slash_no_change h h' e hst ns
      exact TR.carried ⟨c.1, c.2.1, c.2.2.reqB, c.2.2.reqS, fun _ => ⟨rfl, rfl⟩⟩ trb trs
    | updateGlobalIndex _ hr =>
      obtain ⟨disp, _, _, rfl, rfl⟩ := updateGlobal_spec hr
      refine TR.carried ⟨rfl, rfl, rfl, rfl, fun t => ?_⟩ trb trs
      have w := flows_of_map t (fun d : Addr × Nat => Msg.withdrawReward e.self d.1) e.delegations
        (fun _ _ _ _ _ hc => by cases hc)
      simp only [mintsTo_append, burnsBy_append, w, mintsTo, burnsBy]
      exact ⟨trivial, trivial⟩
    | updateConfig d r b s a rw u _ hr =>
      obtain ⟨_, _, _, rfl, rfl⟩ := updateConfig_spec hr
      refine TR.carried ⟨rfl, rfl, rfl, rfl, fun t => ?_⟩ trb trs
      cases d <;> exact ⟨rfl, rfl⟩
    | redelegateProxy src plan _ _ hh hm =>
      subst hh hm
      exact TR.carried ⟨rfl, rfl, rfl, rfl, fun t => flows_of_map t _ plan (fun _ _ _ _ _ hc => by cases hc)⟩ trb trs
    | bond | bondForStSei | convertBS | convertSB | unbondB | unbondS => exact absurd rfl htr
    | migrate | params | withdrawUnbonded | setOwner | acceptOwnership | swapHook | claimAirdrop => cases hns

end Krp
