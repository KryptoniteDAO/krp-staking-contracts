/-
  The hub's handlers characterised (`*_spec`) and its entry point inverted (`HubRoute`/`hubExec_route`):
  start every per-message theorem with `cases hubExec_route hx` and feed the handler equation to the `*_spec` lemma.
-/
import Krp.Lemmas.Pricing
namespace Krp

theorem guard_ok {α : Type} {c : Prop} [Decidable c] {e : String} {x : Res α} {y : α}
    (h : (if c then Except.error e else x) = .ok y) : ¬ c ∧ x = .ok y := by
  split at h
  · cases h
  · exact ⟨‹_›, h⟩

theorem Except.map_bind {ε α β γ : Type} (f : β → γ) (x : Except ε α) (k : α → Except ε β) :
    Except.map f (x >>= k) = x >>= fun a => Except.map f (k a) := by cases x <;> rfl

theorem Except.bind_map {ε α β γ : Type} (f : α → β) (x : Except ε α) (k : β → Except ε γ) :
    Except.map f x >>= k = x >>= fun a => k (f a) := by cases x <;> rfl

namespace HubSt

/-- what `query_actual_state` leaves alone, as far as the handler specifications use it -/
structure SameBooks (h st : HubSt) : Prop where
  reqB : st.reqB = h.reqB
  reqS : st.reqS = h.reqS
  fee : st.fee = h.fee
  thr : st.thr = h.thr
  bsei : st.bsei = h.bsei
  stsei : st.stsei = h.stsei
  batchId : st.batchId = h.batchId
  epoch : st.epoch = h.epoch
  lastUnb : st.lastUnbondedTime = h.lastUnbondedTime
  prev : st.prevHubBalance = h.prevHubBalance
  hist : st.hist = h.hist
  waitB : st.waitB = h.waitB
  waitS : st.waitS = h.waitS
  waitSet : st.waitSet = h.waitSet
  paused : st.paused = h.paused
  lastProc : st.lastProcessedBatch = h.lastProcessedBatch

theorem SameBooks.refl (h : HubSt) : SameBooks h h :=
  ⟨rfl, rfl, rfl, rfl, rfl, rfl, rfl, rfl, rfl, rfl, rfl, rfl, rfl, rfl, rfl, rfl⟩

/-- `query_actual_state`: either the stored state is returned untouched (no delegations, or nothing
    booked), or the pools are re-synchronised and both rates recomputed from the current supplies -/
theorem actualState_spec (h st : HubSt) (e : HubEnv) (hx : h.actualState e = .ok st) :
    SameBooks h st ∧
    ((e.delegations = [] ∨ h.bBond + h.sBond = 0) ∧ st = h ∨
     ∃ bs ss, e.delegations ≠ [] ∧ h.bBond + h.sBond ≠ 0 ∧ h.bSupplyQ e = .ok bs ∧ h.sSupplyQ e = .ok ss ∧
       st.bRate = rateOf st.bBond bs h.reqB ∧ st.sRate = rateOf st.sBond ss h.reqS ∧
       ((h.bBond + h.sBond ≤ (e.delegations.map (·.2)).sum ∧ st.bBond = h.bBond ∧ st.sBond = h.sBond) ∨
        ((e.delegations.map (·.2)).sum < h.bBond + h.sBond ∧
          st.bBond = mulDec (e.delegations.map (·.2)).sum (fromRatio h.bBond (h.bBond + h.sBond)) ∧
          st.bBond + st.sBond = (e.delegations.map (·.2)).sum))) := by
  unfold actualState at hx
  split at hx
  · injection hx with hx; subst hx; rename_i hd
    exact ⟨SameBooks.refl _, Or.inl ⟨Or.inl hd, rfl⟩⟩
  · split at hx
    · injection hx with hx; subst hx; rename_i hd hz
      exact ⟨SameBooks.refl _, Or.inl ⟨Or.inr hz, rfl⟩⟩
    · rename_i hd hz
      exc_norm at hx
      split at hx
      · cases hx
      · split at hx
        · cases hx
        · rename_i bs hbs _ ss hss
          split at hx
          · rename_i hgt
            split at hx
            · cases hx
            · rename_i hle
              injection hx with hx; subst hx
              refine ⟨⟨rfl, rfl, rfl, rfl, rfl, rfl, rfl, rfl, rfl, rfl, rfl, rfl, rfl, rfl, rfl, rfl⟩,
                Or.inr ⟨bs, ss, hd, hz, hbs, hss, rfl, rfl, Or.inr ⟨hgt, rfl, ?_⟩⟩⟩
              show mulDec _ _ + ((e.delegations.map (·.2)).sum - mulDec _ _) = _
              omega
          · rename_i hle
            injection hx with hx; subst hx
            exact ⟨⟨rfl, rfl, rfl, rfl, rfl, rfl, rfl, rfl, rfl, rfl, rfl, rfl, rfl, rfl, rfl, rfl⟩,
              Or.inr ⟨bs, ss, hd, hz, hbs, hss, rfl, rfl, Or.inl ⟨by omega, rfl, rfl⟩⟩⟩

/-- fee on a mint of `m` bSei for `v` coins -/
theorem pegFeeOnMint_spec (st : HubSt) (S m v out : Nat) (hx : st.pegFeeOnMint S m v = .ok out) :
    out ≤ m ∧ m - out ≤ mulDec m st.fee ∧ (st.thr ≤ st.bRate → out = m) ∧
    (st.bRate < st.thr → st.bBond + v ≤ S + out + st.reqB) := by
  unfold pegFeeOnMint at hx
  split at hx
  · rename_i hlt
    exc_split at hx
    refine ⟨by omega, by omega, fun hge => by omega, fun _ => by omega⟩
  · rename_i hge
    injection hx with hx; subst hx
    exact ⟨Nat.le_refl _, by omega, fun _ => rfl, fun hlt => absurd hlt hge⟩

/-- fee on a burn of `amount` bSei (unbond, convert bSei→stSei) -/
theorem pegFeeOnBurn_spec (st : HubSt) (S amount out : Nat) (hx : st.pegFeeOnBurn S amount = .ok out) :
    out ≤ amount ∧ amount - out ≤ mulDec amount st.fee ∧ (st.thr ≤ st.bRate → out = amount) ∧
    (st.bRate < st.thr → st.bBond + (amount - out) ≤ S + st.reqB) := by
  unfold pegFeeOnBurn at hx
  split at hx
  · exc_split at hx
    refine ⟨by omega, by omega, fun hge => by omega, fun _ => by omega⟩
  · rename_i hge
    injection hx with hx; subst hx
    exact ⟨Nat.le_refl _, by omega, fun _ => rfl, fun hlt => absurd hlt hge⟩

theorem paymentOf_pos (funds : List (Denom × Nat)) (p : Nat) (hx : paymentOf funds = .ok p) : 0 < p := by
  unfold paymentOf at hx
  exc_split at hx
  rename_i c hf
  have := List.find?_some hf
  simp at this
  omega

theorem bondB_spec (h h' : HubSt) (e : HubEnv) (sender : Addr) (funds : List (Denom × Nat))
    (ms : List Msg) (hx : h.bondB e sender funds = .ok (h', ms)) :
    ∃ p st mint delegs tok, paymentOf funds = .ok p ∧ h.actualState e = .ok st ∧ st.bRate ≠ 0 ∧
      st.pegFeeOnMint ((st.bSupplyQ e).toOption.getD 0) (decDiv p st.bRate) p = .ok mint ∧
      h.delegMsgs e p = .ok delegs ∧ h.bsei = some tok ∧
      h' = { st with bBond := st.bBond + p,
                     bRate := rateOf (st.bBond + p) ((st.bSupplyQ e).toOption.getD 0 + mint) h.reqB } ∧
      ms = delegs ++ [tokMsg e.self tok (.mint sender mint)] := by
  unfold bondB at hx
  exc_split at hx
  exact ⟨_, _, _, _, _, by assumption, by assumption, by assumption, by assumption, by assumption,
    by assumption, rfl, rfl⟩

theorem bondS_spec (h h' : HubSt) (e : HubEnv) (sender : Addr) (funds : List (Denom × Nat))
    (ms : List Msg) (hx : h.bondS e sender funds = .ok (h', ms)) :
    ∃ p st delegs tok, paymentOf funds = .ok p ∧ h.actualState e = .ok st ∧ st.sRate ≠ 0 ∧
      h.delegMsgs e p = .ok delegs ∧ h.stsei = some tok ∧
      h' = { st with sBond := st.sBond + p } ∧
      ms = delegs ++ [tokMsg e.self tok (.mint sender (decDiv p st.sRate))] := by
  unfold bondS at hx
  exc_split at hx
  exact ⟨_, _, _, _, by assumption, by assumption, by assumption, by assumption, by assumption, rfl, rfl⟩

theorem bondR_spec (h h' : HubSt) (e : HubEnv) (sender : Addr) (funds : List (Denom × Nat))
    (ms : List Msg) (hx : h.bondR e sender funds = .ok (h', ms)) :
    ∃ p st, h.dispatcher = some sender ∧ paymentOf funds = .ok p ∧ h.actualState e = .ok st ∧
      h.delegMsgs e p = .ok ms ∧
      h' = { st with sBond := st.sBond + p,
                     sRate := rateOf (st.sBond + p) ((st.sSupplyQ e).toOption.getD 0) h.reqS } := by
  unfold bondR at hx
  split at hx
  · cases hx
  · rename_i d hd
    split at hx
    · cases hx
    · rename_i hs
      have hsd : sender = d := Classical.not_not.mp hs
      subst hsd
      exc_split at hx
      exact ⟨_, _, hd, by assumption, by assumption, by assumption, rfl⟩

theorem processUndelegations_spec (h h' : HubSt) (e : HubEnv) (ms : List Msg)
    (hx : h.processUndelegations e = .ok (h', ms)) :
    pickValidator e (mulDec h.reqB h.bRate + mulDec h.reqS h.sRate) = .ok ms ∧
    mulDec h.reqS h.sRate ≤ h.sBond ∧ mulDec h.reqB h.bRate ≤ h.bBond ∧
    h'.sBond = h.sBond - mulDec h.reqS h.sRate ∧ h'.bBond = h.bBond - mulDec h.reqB h.bRate ∧
    h'.bRate = h.bRate ∧ h'.sRate = h.sRate ∧ h'.reqB = 0 ∧ h'.reqS = 0 ∧
    h'.batchId = h.batchId + 1 ∧ h'.lastUnbondedTime = e.now ∧
    h'.hist = upd h.hist h.batchId (some
      { time := e.now, bAmt := h.reqB, bApplied := h.bRate, bWithdraw := h.bRate,
        sAmt := h.reqS, sApplied := h.sRate, sWithdraw := h.sRate, released := false }) ∧
    h'.waitB = h.waitB ∧ h'.waitS = h.waitS ∧ h'.waitSet = h.waitSet ∧
    h'.prevHubBalance = h.prevHubBalance ∧ h'.lastProcessedBatch = h.lastProcessedBatch := by
  unfold processUndelegations at hx
  exc_split at hx
  refine ⟨by assumption, by omega, by omega, rfl, rfl, rfl, rfl, rfl, rfl, rfl, rfl, rfl, rfl, rfl, rfl, rfl, rfl⟩

theorem unbondB_spec (h h' : HubSt) (e : HubEnv) (amount : Nat) (user : Addr) (ms : List Msg)
    (hx : h.unbondB e amount user = .ok (h', ms)) :
    ∃ st supply withFee tok, h.actualState e = .ok st ∧ st.bSupplyQ e = .ok supply ∧
      st.pegFeeOnBurn supply amount = .ok withFee ∧ amount ≤ supply ∧ st.lastUnbondedTime ≤ e.now ∧
      h.bsei = some tok ∧
      ((e.now - st.lastUnbondedTime > st.epoch ∧ ∃ um,
          (st.afterUnbondB user supply amount withFee).processUndelegations e = .ok (h', um) ∧
          ms = um ++ [tokMsg e.self tok (.burn amount)]) ∨
       (¬ e.now - st.lastUnbondedTime > st.epoch ∧ h' = st.afterUnbondB user supply amount withFee ∧
          ms = [tokMsg e.self tok (.burn amount)])) := by
  unfold unbondB at hx
  split at hx
  · cases hx
  · rename_i st hst
    split at hx
    · cases hx
    · rename_i supply hsup
      split at hx
      · cases hx
      · rename_i withFee hfee
        split at hx
        · cases hx
        · rename_i hle
          split at hx
          · cases hx
          · rename_i htime
            split at hx
            · cases hx
            · rename_i tok htok
              refine ⟨st, supply, withFee, tok, hst, hsup, hfee, by omega, by omega, htok, ?_⟩
              split at hx
              · rename_i hep
                split at hx
                · cases hx
                · rename_i r hr
                  injection hx with hx; injection hx with h1 h2
                  subst h1; subst h2
                  exact Or.inl ⟨hep, r.2, by cases r; exact hr, rfl⟩
              · rename_i hep
                injection hx with hx; injection hx with h1 h2
                subst h1; subst h2
                exact Or.inr ⟨hep, rfl, rfl⟩

theorem unbondS_spec (h h' : HubSt) (e : HubEnv) (amount : Nat) (user : Addr) (ms : List Msg)
    (hx : h.unbondS e amount user = .ok (h', ms)) :
    ∃ st tok, h.actualState e = .ok st ∧ st.lastUnbondedTime ≤ e.now ∧ h.stsei = some tok ∧
      ((e.now - st.lastUnbondedTime > st.epoch ∧ ∃ um,
          (st.afterUnbondS user amount).processUndelegations e = .ok (h', um) ∧
          ms = um ++ [tokMsg e.self tok (.burn amount)]) ∨
       (¬ e.now - st.lastUnbondedTime > st.epoch ∧ h' = st.afterUnbondS user amount ∧
          ms = [tokMsg e.self tok (.burn amount)])) := by
  unfold unbondS at hx
  split at hx
  · cases hx
  · rename_i st hst
    split at hx
    · cases hx
    · rename_i htime
      split at hx
      · cases hx
      · rename_i tok htok
        refine ⟨st, tok, hst, by omega, htok, ?_⟩
        split at hx
        · rename_i hep
          split at hx
          · cases hx
          · rename_i r hr
            injection hx with hx; injection hx with h1 h2
            subst h1; subst h2
            exact Or.inl ⟨hep, r.2, by cases r; exact hr, rfl⟩
        · rename_i hep
          injection hx with hx; injection hx with h1 h2
          subst h1; subst h2
          exact Or.inr ⟨hep, rfl, rfl⟩

theorem convertSB_spec (h h' : HubSt) (e : HubEnv) (amount : Nat) (user : Addr) (ms : List Msg)
    (hx : h.convertSB e amount user = .ok (h', ms)) :
    ∃ st sTok bTok bs ss mint, h.actualState e = .ok st ∧ h.stsei = some sTok ∧ h.bsei = some bTok ∧
      st.bRate ≠ 0 ∧ st.bSupplyQ e = .ok bs ∧ st.sSupplyQ e = .ok ss ∧
      st.pegFeeOnMint bs (decDiv (mulDec amount st.sRate) st.bRate) (mulDec amount st.sRate) = .ok mint ∧
      mulDec amount st.sRate ≤ st.sBond ∧ amount ≤ ss ∧
      h' = { st with bBond := st.bBond + mulDec amount st.sRate,
                     sBond := st.sBond - mulDec amount st.sRate,
                     bRate := rateOf (st.bBond + mulDec amount st.sRate) (bs + mint) st.reqB,
                     sRate := rateOf (st.sBond - mulDec amount st.sRate) (ss - amount) st.reqS } ∧
      ms = [tokMsg e.self bTok (.mint user mint), tokMsg e.self sTok (.burn amount)] := by
  unfold convertSB at hx
  exc_split at hx
  exact ⟨_, _, _, _, _, _, by assumption, by assumption, by assumption, by assumption, by assumption,
    by assumption, by assumption, by omega, by omega, rfl, rfl⟩

theorem convertBS_spec (h h' : HubSt) (e : HubEnv) (amount : Nat) (user : Addr) (ms : List Msg)
    (hx : h.convertBS e amount user = .ok (h', ms)) :
    ∃ st sTok bTok bs ss withFee, h.actualState e = .ok st ∧ h.stsei = some sTok ∧ h.bsei = some bTok ∧
      st.bSupplyQ e = .ok bs ∧ st.sSupplyQ e = .ok ss ∧ st.pegFeeOnBurn bs amount = .ok withFee ∧
      st.sRate ≠ 0 ∧ mulDec withFee st.bRate ≤ st.bBond ∧ amount ≤ bs ∧
      h' = { st with bBond := st.bBond - mulDec withFee st.bRate,
                     sBond := st.sBond + mulDec withFee st.bRate,
                     bRate := rateOf (st.bBond - mulDec withFee st.bRate) (bs - amount) st.reqB,
                     sRate := rateOf (st.sBond + mulDec withFee st.bRate)
                       (ss + decDiv (mulDec withFee st.bRate) st.sRate) st.reqS } ∧
      ms = [tokMsg e.self sTok (.mint user (decDiv (mulDec withFee st.bRate) st.sRate)),
            tokMsg e.self bTok (.burn amount)] := by
  unfold convertBS at hx
  exc_split at hx
  exact ⟨_, _, _, _, _, _, by assumption, by assumption, by assumption, by assumption, by assumption,
    by assumption, by assumption, by omega, by omega, rfl, rfl⟩

theorem updateConfig_spec {h h' : HubSt} {self sender : Addr} {d r b s a rw u : Option Addr} {ms : List Msg}
    (hx : h.updateConfig self sender d r b s a rw u = .ok (h', ms)) :
    sender = h.creator ∧ (b.isSome → h.bsei = none) ∧ (s.isSome → h.stsei = none) ∧
    h' = { h with dispatcher := d.orElse (fun _ => h.dispatcher), registry := r.orElse (fun _ => h.registry),
                  bsei := b.orElse (fun _ => h.bsei), stsei := s.orElse (fun _ => h.stsei),
                  airdrop := a.orElse (fun _ => h.airdrop), rewards := rw.orElse (fun _ => h.rewards),
                  updater := u.getD h.updater } ∧
    ms = (d.map (Msg.setWithdrawAddr self)).toList := by
  unfold updateConfig at hx
  simp only [bind, Except.bind, pure, Except.pure, throw, throwThe, MonadExceptOf.throw] at hx
  split at hx
  · cases hx
  · rename_i hs
    split at hx
    · cases hx
    · rename_i hb
      split at hx
      · cases hx
      · rename_i hst
        cases hx
        refine ⟨Classical.not_not.mp hs, fun hb' => ?_, fun hs' => ?_, rfl, by cases d <;> rfl⟩
        · cases hh : h.bsei with
          | none => rfl
          | some x => exact absurd ⟨hb', by rw [hh]; rfl⟩ hb
        · cases hh : h.stsei with
          | none => rfl
          | some x => exact absurd ⟨hs', by rw [hh]; rfl⟩ hst

theorem updateGlobal_spec {h h' : HubSt} {e : HubEnv} {sender : Addr} {ms : List Msg}
    (hx : h.updateGlobal e sender = .ok (h', ms)) :
    ∃ disp, h.dispatcher = some disp ∧ (sender = h.updater ∨ h.registry = some sender) ∧
      ms = e.delegations.map (fun d => Msg.withdrawReward e.self d.1) ++
           [Msg.wasm e.self disp (.disp (.swap h.bBond h.sBond)) [],
            Msg.wasm e.self disp (.disp .dispatch) []] ∧
      h' = { h with lastIndexMod := e.now } := by
  unfold updateGlobal at hx
  exc_norm at hx
  exc_split at hx
  · rename_i hs r hr hsr _ d hd
    exact ⟨d, hd, Or.inr (by rw [hr, Classical.not_not.mp hsr]), rfl, rfl⟩
  · rename_i hs _ d hd
    exact ⟨d, hd, Or.inl (Classical.not_not.mp hs), rfl, rfl⟩

theorem updateParams_spec {h h' : HubSt} {sender : Addr} {ep ub fee thr : Option Nat} {paused : Option Bool}
    {rd : Option Denom} (hx : h.updateParams sender ep ub fee thr paused rd = .ok h') :
    sender = h.creator ∧ (∀ f, fee = some f → f ≤ D) ∧ (paused = some true ∨ h.legacy = []) ∧
    h' = { h with epoch := ep.getD h.epoch, unbonding := ub.getD h.unbonding, fee := fee.getD h.fee,
                  thr := min (thr.getD h.thr) D, rewardDenom := rd.getD h.rewardDenom, paused := paused } := by
  unfold updateParams at hx
  simp only [bind, Except.bind, pure, Except.pure, throw, throwThe, MonadExceptOf.throw] at hx
  split at hx
  · cases hx
  · rename_i hs
    have por : ¬ (paused ≠ some true ∧ h.legacy ≠ []) → paused = some true ∨ h.legacy = [] := fun hl =>
      Classical.byCases Or.inl fun hp => Or.inr (Classical.not_not.mp fun hn => hl ⟨hp, hn⟩)
    cases fee with
    | none =>
      simp only [] at hx
      split at hx
      · cases hx
      · rename_i hl
        cases hx
        exact ⟨Classical.not_not.mp hs, nofun, por hl, rfl⟩
    | some f =>
      simp only [] at hx
      split at hx
      · cases hx
      · rename_i hf
        split at hx
        · cases hx
        · rename_i hl
          cases hx
          exact ⟨Classical.not_not.mp hs, fun f' hf' => by cases hf'; omega, por hl, rfl⟩
end HubSt

open HubSt

/-- Which handler an accepted hub message ran. The entry point's own checks — migration and
    UpdateParams ahead of the pause guard, the pause guard, the sender checks `hubExec` makes
    itself — are discharged; what remains is the handler's equation. -/
inductive HubRoute (h : HubSt) (e : HubEnv) (sender : Addr) (funds : List (Denom × Nat))
    (h' : HubSt) (ms : List Msg) : HubMsg → Prop where
  | migrate (limit : Option Nat) (hp : h.isPaused = true) (hh : h' = h.migrate limit) (hm : ms = []) :
      HubRoute h e sender funds h' ms (.migrateWaitList limit)
  | params (ep ub fee thr : Option Nat) (paused : Option Bool) (rd : Option Denom)
      (hx : h.updateParams sender ep ub fee thr paused rd = .ok h') (hm : ms = []) :
      HubRoute h e sender funds h' ms (.updateParams ep ub fee thr paused rd)
  | unbondB (user : Addr) (amt : Nat) (s : Addr) (hp : h.isPaused = false) (hb : h.bsei = some sender)
      (hs : h.stsei = some s) (hx : h.unbondB e amt user = .ok (h', ms)) :
      HubRoute h e sender funds h' ms (.receive user amt .unbond)
  | unbondS (user : Addr) (amt : Nat) (b : Addr) (hp : h.isPaused = false) (hb : h.bsei = some b)
      (hne : sender ≠ b) (hs : h.stsei = some sender) (hx : h.unbondS e amt user = .ok (h', ms)) :
      HubRoute h e sender funds h' ms (.receive user amt .unbond)
  | convertBS (user : Addr) (amt : Nat) (s : Addr) (hp : h.isPaused = false) (hb : h.bsei = some sender)
      (hs : h.stsei = some s) (hx : h.convertBS e amt user = .ok (h', ms)) :
      HubRoute h e sender funds h' ms (.receive user amt .convert)
  | convertSB (user : Addr) (amt : Nat) (b : Addr) (hp : h.isPaused = false) (hb : h.bsei = some b)
      (hne : sender ≠ b) (hs : h.stsei = some sender) (hx : h.convertSB e amt user = .ok (h', ms)) :
      HubRoute h e sender funds h' ms (.receive user amt .convert)
  | bond (hp : h.isPaused = false) (hx : h.bondB e sender funds = .ok (h', ms)) :
      HubRoute h e sender funds h' ms .bond
  | bondForStSei (hp : h.isPaused = false) (hx : h.bondS e sender funds = .ok (h', ms)) :
      HubRoute h e sender funds h' ms .bondForStSei
  | bondRewards (hp : h.isPaused = false) (hx : h.bondR e sender funds = .ok (h', ms)) :
      HubRoute h e sender funds h' ms .bondRewards
  | updateGlobalIndex (hp : h.isPaused = false) (hx : h.updateGlobal e sender = .ok (h', ms)) :
      HubRoute h e sender funds h' ms .updateGlobalIndex
  | withdrawUnbonded (hp : h.isPaused = false) (hx : h.withdraw e sender = .ok (h', ms)) :
      HubRoute h e sender funds h' ms .withdrawUnbonded
  | checkSlashing (hp : h.isPaused = false) (hx : h.actualState e = .ok h') (hm : ms = []) :
      HubRoute h e sender funds h' ms .checkSlashing
  | updateConfig (d r b s a rw u : Option Addr) (hp : h.isPaused = false)
      (hx : h.updateConfig e.self sender d r b s a rw u = .ok (h', ms)) :
      HubRoute h e sender funds h' ms (.updateConfig d r b s a rw u)
  | setOwner (a : Addr) (hp : h.isPaused = false) (hs : sender = h.creator)
      (hh : h' = { h with newOwner := a }) (hm : ms = []) : HubRoute h e sender funds h' ms (.setOwner a)
  | acceptOwnership (hp : h.isPaused = false) (hs : sender = h.newOwner)
      (hh : h' = { h with creator := h.newOwner }) (hm : ms = []) :
      HubRoute h e sender funds h' ms .acceptOwnership
  | swapHook (hp : h.isPaused = false) (hs : sender = e.self) (hh : h' = h)
      (hm : ms = [Msg.wasm e.self sinkA (.receiveHook e.self 0 .other) []]) :
      HubRoute h e sender funds h' ms .swapHook
  | claimAirdrop (hp : h.isPaused = false) (ha : h.airdrop = some sender) (hh : h' = h)
      (hm : ms = [Msg.wasm e.self sinkA (.receiveHook e.self 0 .other) [],
                  Msg.wasm e.self e.self (.hub .swapHook) []]) :
      HubRoute h e sender funds h' ms .claimAirdrop
  | redelegateProxy (src : Addr) (plan : List (Addr × Nat)) (hp : h.isPaused = false)
      (hr : h.registry = some sender) (hh : h' = h)
      (hm : ms = plan.map (fun p => Msg.redelegate e.self src p.1 p.2)) :
      HubRoute h e sender funds h' ms (.redelegateProxy src plan)

theorem hubExec_route {h h' : HubSt} {e : HubEnv} {sender : Addr} {funds : List (Denom × Nat)}
    {m : HubMsg} {ms : List Msg} (hx : hubExec h e sender funds m = .ok (h', ms)) :
    HubRoute h e sender funds h' ms m := by
  have np : ∀ {b : Bool}, ¬ b = true → b = false := fun h => by simpa using h
  cases m with
  | migrateWaitList limit =>
    simp only [hubExec] at hx; exc_norm at hx; exc_split at hx
    exact .migrate limit ‹_› rfl rfl
  | updateParams a b c d p r =>
    simp only [hubExec] at hx; exc_norm at hx; exc_split at hx
    exact .params a b c d p r ‹_› rfl
  | receive user amt hook =>
    simp only [hubExec] at hx
    split at hx
    · cases hx
    · rename_i hp
      exc_norm at hx
      split at hx
      · cases hx
      · rename_i b hb
        split at hx
        · cases hx
        · rename_i s hs
          cases hook with
          | other => cases hx
          | unbond =>
            simp only [] at hx
            split at hx
            · rename_i hsb; subst hsb; exact .unbondB user amt s (np hp) hb hs hx
            · rename_i hne
              split at hx
              · rename_i hss; subst hss; exact .unbondS user amt b (np hp) hb hne hs hx
              · cases hx
          | convert =>
            simp only [] at hx
            split at hx
            · rename_i hsb; subst hsb; exact .convertBS user amt s (np hp) hb hs hx
            · rename_i hne
              split at hx
              · rename_i hss; subst hss; exact .convertSB user amt b (np hp) hb hne hs hx
              · cases hx
  | bond =>
    simp only [hubExec] at hx; split at hx
    · cases hx
    · exact .bond (np ‹_›) hx
  | bondForStSei =>
    simp only [hubExec] at hx; split at hx
    · cases hx
    · exact .bondForStSei (np ‹_›) hx
  | bondRewards =>
    simp only [hubExec] at hx; split at hx
    · cases hx
    · exact .bondRewards (np ‹_›) hx
  | updateGlobalIndex =>
    simp only [hubExec] at hx; split at hx
    · cases hx
    · exact .updateGlobalIndex (np ‹_›) hx
  | withdrawUnbonded =>
    simp only [hubExec] at hx; split at hx
    · cases hx
    · exact .withdrawUnbonded (np ‹_›) hx
  | checkSlashing =>
    simp only [hubExec] at hx; exc_norm at hx; exc_split at hx
    exact .checkSlashing (np ‹_›) ‹_› rfl
  | updateConfig d r b s a rw u =>
    simp only [hubExec] at hx; split at hx
    · cases hx
    · exact .updateConfig d r b s a rw u (np ‹_›) hx
  | setOwner a =>
    simp only [hubExec] at hx; exc_norm at hx; exc_split at hx
    exact .setOwner a (np ‹_›) (Classical.not_not.mp ‹_›) rfl rfl
  | acceptOwnership =>
    simp only [hubExec] at hx; exc_norm at hx; exc_split at hx
    exact .acceptOwnership (np ‹_›) (Classical.not_not.mp ‹_›) rfl rfl
  | swapHook =>
    simp only [hubExec] at hx; exc_norm at hx; exc_split at hx
    exact .swapHook (np ‹_›) (Classical.not_not.mp ‹_›) rfl rfl
  | claimAirdrop =>
    simp only [hubExec] at hx; exc_norm at hx; exc_split at hx
    rename_i hp _ a ha hs
    cases Classical.not_not.mp hs
    exact .claimAirdrop (np hp) ha rfl rfl
  | redelegateProxy src plan =>
    simp only [hubExec] at hx; exc_norm at hx; exc_split at hx
    rename_i hp _ r hr hs
    cases Classical.not_not.mp hs
    exact .redelegateProxy src plan (np hp) hr rfl rfl

theorem perm_insDesc (x : Addr × Nat) (l : List (Addr × Nat)) : (insDesc x l).Perm (x :: l) := by
  induction l with
  | nil => exact .refl _
  | cons y ys ih =>
    simp only [insDesc]
    split
    · exact .refl _
    · exact (ih.cons y).trans (.swap x y ys)

theorem perm_sortDesc (l : List (Addr × Nat)) : (sortDesc l).Perm l := by
  induction l with
  | nil => exact .refl _
  | cons x xs ih => exact (perm_insDesc x (sortDesc xs)).trans (ih.cons x)

theorem pickValidator_plan {e : HubEnv} {claim : Nat} {ms : List Msg} (hx : pickValidator e claim = .ok ms) :
    ∃ plan, calculateUndelegations 1 claim ((sortDesc e.delegations).map (·.2)) = some plan ∧
      ms = zipMsgs (fun v p => Msg.undelegate e.self v p) (sortDesc e.delegations) plan := by
  unfold pickValidator at hx
  simp only [] at hx
  split at hx
  · cases hx
  · cases hx
    exact ⟨_, ‹_›, rfl⟩

end Krp
