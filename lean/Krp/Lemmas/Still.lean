/-
  Still.lean — messages that cannot move an exchange rate (C04).

  `Still m`: by its call shape `m` is none of the pricing operations (hub Bond / BondForStSei /
  BondRewards / Receive{Unbond, Convert} / CheckSlashing / UpdateGlobalIndex / UpdateConfig /
  RedelegateProxy), no token Mint / Burn / BurnFrom / Send-to-the-hub / UpdateMinter / UpdateMarketing, no dispatcher
  DispatchRewards,
  no registry RemoveValidator / Redelegations, no staking message.  Handling a still message leaves
  the two pools, the pending requests, the stored rates, the token registration, both token supplies
  and the delegations exactly as they were, and emits only still messages — so a whole transaction
  started by a still message leaves both reported exchange rates unchanged.
-/
import Krp.Lemmas.Wiring
namespace Krp
open HubSt

def Still : Msg → Bool
  | .bankSend .. => true
  | .setWithdrawAddr .. => true
  | .withdrawReward .. => true
  | .delegate .. => false
  | .undelegate .. => false
  | .redelegate .. => false
  | .wasm _ _ (.hub hm) _ =>
    match hm with
    | .withdrawUnbonded => true
    | .updateParams .. => true
    | .setOwner _ => true
    | .acceptOwnership => true
    | .swapHook => true
    | .claimAirdrop => true
    | .migrateWaitList _ => true
    | _ => false
  | .wasm _ _ (.tok tm) _ =>
    match tm with
    | .transfer .. => true
    | .transferFrom .. => true
    | .incAllow .. => true
    | .decAllow .. => true
    | .send c _ _ => c != hubA
    | .sendFrom _ c _ _ => c != hubA
    | _ => false
  | .wasm _ _ (.reward _) _ => true
  | .wasm _ _ (.disp dm) _ =>
    match dm with
    | .dispatch => false
    | _ => true
  | .wasm _ _ (.reg rm) _ =>
    match rm with
    | .remove _ => false
    | .redelegations _ => false
    | _ => true
  | .wasm _ _ (.swapDenom ..) _ => true
  | .wasm _ _ (.receiveHook ..) _ => true

def AllStill (ms : List Msg) : Prop := ∀ m ∈ ms, Still m = true

theorem AllStill.nil : AllStill [] := fun _ h => (List.not_mem_nil h).elim
theorem AllStill.cons {m : Msg} {ms : List Msg} (h1 : Still m = true) (h2 : AllStill ms) : AllStill (m :: ms) :=
  List.forall_mem_cons.mpr ⟨h1, h2⟩
theorem AllStill.append {x y : List Msg} (h1 : AllStill x) (h2 : AllStill y) : AllStill (x ++ y) :=
  List.forall_mem_append.mpr ⟨h1, h2⟩

theorem Emits.still {m x : Msg} (h : Emits m x) (hs : Still m = true) : Still x = true := by
  cases h with
  | swap => rfl
  | reward o => cases o <;> rfl
  | hub o | bsei o | stsei o | disp o | reg o => cases o <;> first | rfl | cases hs

/-- everything the reported exchange rates are computed from -/
structure SamePools (s s' : Sys) : Prop where
  bBond : s'.hub.bBond = s.hub.bBond
  sBond : s'.hub.sBond = s.hub.sBond
  reqB : s'.hub.reqB = s.hub.reqB
  reqS : s'.hub.reqS = s.hub.reqS
  bRate : s'.hub.bRate = s.hub.bRate
  sRate : s'.hub.sRate = s.hub.sRate
  btok : s'.hub.bsei = s.hub.bsei
  stok : s'.hub.stsei = s.hub.stsei
  bSupply : s'.bsei.supply = s.bsei.supply
  sSupply : s'.stsei.supply = s.stsei.supply
  deleg : s'.chain.deleg = s.chain.deleg
  delegSet : s'.chain.delegSet = s.chain.delegSet

theorem SamePools.refl (s : Sys) : SamePools s s := ⟨rfl, rfl, rfl, rfl, rfl, rfl, rfl, rfl, rfl, rfl, rfl, rfl⟩

theorem SamePools.trans {a b c : Sys} (x : SamePools a b) (y : SamePools b c) : SamePools a c :=
  ⟨y.bBond.trans x.bBond, y.sBond.trans x.sBond, y.reqB.trans x.reqB, y.reqS.trans x.reqS,
   y.bRate.trans x.bRate, y.sRate.trans x.sRate, y.btok.trans x.btok, y.stok.trans x.stok,
   y.bSupply.trans x.bSupply, y.sSupply.trans x.sSupply, y.deleg.trans x.deleg, y.delegSet.trans x.delegSet⟩

/-- the hub part of `SamePools` -/
def HubSt.pools (h : HubSt) := (h.bBond, h.sBond, h.reqB, h.reqS, h.bRate, h.sRate, h.bsei, h.stsei)

theorem hubExec_still (h h' : HubSt) (e : HubEnv) (sender : Addr) (funds : List (Denom × Nat))
    (m : HubMsg) (ms : List Msg) (hs : Still (.wasm sender e.self (.hub m) funds) = true)
    (hx : hubExec h e sender funds m = .ok (h', ms)) : h'.pools = h.pools := by
  cases hubExec_route hx with
  | withdrawUnbonded _ hw =>
    obtain ⟨_, h1, hp, _, _, rfl, _⟩ := withdraw_spec h h' e sender ms hw
    obtain ⟨_, _, rfl⟩ := processWithdrawRate_shape hp
    exact foldl_keeps pools (fun hh i => hh.delWait sender i) (fun _ _ => rfl) _ _
  | migrate limit _ hh _ =>
    subst hh
    unfold migrate
    simp only []
    split
    · rfl
    · exact foldl_keeps pools migrateOne (fun _ _ => rfl) _ _
  | params _ _ _ _ _ _ hp _ => obtain ⟨_, _, _, rfl⟩ := updateParams_spec hp; rfl
  | setOwner _ _ _ hh _ | acceptOwnership _ _ hh _ | swapHook _ _ hh _ | claimAirdrop _ _ hh _ => subst hh; rfl
  | _ => cases hs

theorem core_still_supply {t t' : Token} {b : Block} {sender tgt : Addr} {m : TokMsg} {funds : List (Denom × Nat)}
    (hs : Still (.wasm sender tgt (.tok m) funds) = true) (hx : t.core b sender m = .ok t') :
    t'.supply = t.supply := by
  cases m with
  | transfer to amt | send to amt hook => exact Token.transfer_supply _ _ _ _ _ hx
  | transferFrom o to amt | sendFrom o to amt hook => exact Token.transferFrom_supply _ _ _ _ _ _ _ hx
  | incAllow sp amt e => exact Token.incAllow_supply _ _ _ _ _ _ _ hx
  | decAllow sp amt e => exact Token.decAllow_supply _ _ _ _ _ _ _ hx
  | _ => cases hs

theorem moveFunds_staking' (src dst : Addr) (l : List (Denom × Nat)) (s s' : Sys)
    (hx : s.moveFunds src dst l = .ok s') : s'.chain.deleg = s.chain.deleg ∧ s'.chain.delegSet = s.chain.delegSet :=
  moveFunds_staking src dst l s s' hx

/-- a call that is neither a hub nor a token message reaches no state that prices -/
theorem handle_other_pools {s s' : Sys} {a b : Addr} {c : Call} {d : List (Denom × Nat)} {subs : List Msg}
    (hx : s.handle (.wasm a b c d) = .ok (s', subs)) (h1 : ∀ hm, c ≠ .hub hm) (h2 : ∀ tm, c ≠ .tok tm) :
    SamePools s s' := by
  obtain ⟨s1, hmv, r⟩ := handle_wasm hx
  obtain ⟨_, rfl⟩ := moveFunds_chain hmv
  cases r with
  | hub hm => exact absurd rfl (h1 hm)
  | bsei tm | stsei tm => exact absurd rfl (h2 tm)
  | reward _ _ _ hs | disp _ _ _ hs | reg _ _ _ hs | swap _ _ _ _ _ _ _ hs _ | sink _ hs _ =>
    subst hs; exact ⟨rfl, rfl, rfl, rfl, rfl, rfl, rfl, rfl, rfl, rfl, rfl, rfl⟩

/-- a hub message moves what prices only through the hub's own state -/
theorem handle_hub_pools {s s' : Sys} {a b : Addr} {hm : HubMsg} {d : List (Denom × Nat)} {subs : List Msg}
    (hx : s.handle (.wasm a b (.hub hm) d) = .ok (s', subs))
    (hh : ∀ e h', hubExec s.hub e a d hm = .ok (h', subs) → h'.pools = s.hub.pools) : SamePools s s' := by
  obtain ⟨s1, hmv, r⟩ := handle_wasm hx
  obtain ⟨_, rfl⟩ := moveFunds_chain hmv
  cases r with
  | hub _ h' hr hs =>
    have p := hh _ _ hr
    simp only [HubSt.pools, Prod.mk.injEq] at p
    obtain ⟨p1, p2, p3, p4, p5, p6, p7, p8⟩ := p
    subst hs; exact ⟨p1, p2, p3, p4, p5, p6, p7, p8, rfl, rfl, rfl, rfl⟩
  | sink _ hs _ => subst hs; exact ⟨rfl, rfl, rfl, rfl, rfl, rfl, rfl, rfl, rfl, rfl, rfl, rfl⟩

/-- a token message moves what prices only through the supply of the token that runs it -/
theorem handle_tok_pools {s s' : Sys} {a b : Addr} {tm : TokMsg} {d : List (Denom × Nat)} {subs : List Msg}
    (hx : s.handle (.wasm a b (.tok tm) d) = .ok (s', subs))
    (hh : ∀ (t t' : Token) blk, t.core blk a tm = .ok t' → t'.supply = t.supply) : SamePools s s' := by
  obtain ⟨s1, hmv, r⟩ := handle_wasm hx
  obtain ⟨_, rfl⟩ := moveFunds_chain hmv
  cases r with
  | bsei _ t' hr hs =>
    subst hs
    exact ⟨rfl, rfl, rfl, rfl, rfl, rfl, rfl, rfl, hh _ _ _ (bsei_core _ _ _ _ _ _ _ _ _ hr), rfl, rfl, rfl⟩
  | stsei _ t' hr hs =>
    subst hs
    exact ⟨rfl, rfl, rfl, rfl, rfl, rfl, rfl, rfl, rfl, hh _ _ _ (stsei_core _ _ _ _ _ _ _ _ hr), rfl, rfl⟩
  | sink _ hs _ => subst hs; exact ⟨rfl, rfl, rfl, rfl, rfl, rfl, rfl, rfl, rfl, rfl, rfl, rfl⟩

theorem handle_still (s s' : Sys) (m : Msg) (ms : List Msg) (hc : Still m = true)
    (hx : s.handle m = .ok (s', ms)) : SamePools s s' ∧ AllStill ms := by
  refine ⟨?_, fun x h => (handle_emits hx x h).still hc⟩
  cases m with
  | bankSend src dst d amt =>
    obtain ⟨_, _, rfl⟩ := bankMove_ok (handle_bankSend hx).1
    exact ⟨rfl, rfl, rfl, rfl, rfl, rfl, rfl, rfl, rfl, rfl, rfl, rfl⟩
  | setWithdrawAddr who a =>
    obtain ⟨_, _, rfl⟩ := handle_setWithdrawAddr hx
    exact ⟨rfl, rfl, rfl, rfl, rfl, rfl, rfl, rfl, rfl, rfl, rfl, rfl⟩
  | withdrawReward who v =>
    obtain ⟨_, _, _, _, _, rfl, _⟩ := handle_withdrawReward hx
    exact ⟨rfl, rfl, rfl, rfl, rfl, rfl, rfl, rfl, rfl, rfl, rfl, rfl⟩
  | delegate who v amt | undelegate who v amt | redelegate who a b amt => cases hc
  | wasm sender target call funds =>
    cases call with
    | hub hm => exact handle_hub_pools hx (fun _ _ hr => hubExec_still _ _ _ _ _ _ _ hc hr)
    | tok tm => exact handle_tok_pools hx (fun _ _ _ hr => core_still_supply hc hr)
    | _ => exact handle_other_pools hx (fun _ he => nomatch he) (fun _ he => nomatch he)

theorem exec_still (s : Sys) (m : Msg) (hc : Still m = true) : SamePools s (s.exec m).1 := by
  unfold Sys.exec
  split
  · rename_i s' hrun
    have fin := run_inv2 (fun a q => SamePools s a ∧ AllStill q)
      (fun a b r a' sb hp hxx => by
        have st := handle_still a a' b sb (hp.2 b (List.mem_cons_self ..)) hxx
        exact ⟨hp.1.trans st.1, AllStill.append st.2 (fun x hx => hp.2 x (List.mem_cons_of_mem _ hx))⟩)
      400 s [m] s' ⟨SamePools.refl s, AllStill.cons hc AllStill.nil⟩ hrun
    exact fin.1
  · exact SamePools.refl s

end Krp
