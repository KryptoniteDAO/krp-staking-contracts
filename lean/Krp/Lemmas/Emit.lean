/-
  Emit.lean — what each contract can emit, by shape.

  For every contract one inductive relation lists the messages its handler can return, indexed by
  the message handled (`HubOut`, `TokOut`, `RewOut`, `DispOut`, `RegOut`), and one theorem says the
  handler emits nothing else (`hubExec_out`, …).  Whether every emitted message belongs to some
  class — is sent by the contract itself, is no SwapToRewardDenom, moves no exchange rate, … — is
  then a case analysis on these shapes and never looks at a handler again.

  Where a handler has a full inversion (`hubExec_route`, `rewardExec_route`, `dispExec_spec`,
  `regExec_redelegations` / `regExec_remove`) the shape is read off that.
-/
import Krp.System
import Krp.Lemmas.Wait
import Krp.Lemmas.Reward
namespace Krp

/-- who a message is from: the account whose coins / stake it moves, or the wasm sender -/
def Msg.sentFrom : Msg → Addr
  | .bankSend src _ _ _ => src
  | .delegate d _ _ => d
  | .undelegate d _ _ => d
  | .redelegate d _ _ _ => d
  | .withdrawReward d _ => d
  | .setWithdrawAddr d _ => d
  | .wasm s _ _ _ => s

def SentBy (a : Addr) (ms : List Msg) : Prop := ∀ m ∈ ms, m.sentFrom = a

theorem SentBy.nil (a : Addr) : SentBy a [] := fun _ h => by cases h
theorem SentBy.cons {a : Addr} {m : Msg} {ms : List Msg} (h1 : m.sentFrom = a) (h2 : SentBy a ms) :
    SentBy a (m :: ms) := List.forall_mem_cons.mpr ⟨h1, h2⟩
theorem SentBy.append {a : Addr} {x y : List Msg} (h1 : SentBy a x) (h2 : SentBy a y) : SentBy a (x ++ y) :=
  List.forall_mem_append.mpr ⟨h1, h2⟩

inductive HubOut (self sender : Addr) : HubMsg → Msg → Prop where
  | bondDelegate (v : Addr) (a : Nat) : HubOut self sender .bond (.delegate self v a)
  | bondMint (tok : Addr) (a : Nat) : HubOut self sender .bond (.wasm self tok (.tok (.mint sender a)) [])
  | bondSDelegate (v : Addr) (a : Nat) : HubOut self sender .bondForStSei (.delegate self v a)
  | bondSMint (tok : Addr) (a : Nat) : HubOut self sender .bondForStSei (.wasm self tok (.tok (.mint sender a)) [])
  | rewardsDelegate (v : Addr) (a : Nat) : HubOut self sender .bondRewards (.delegate self v a)
  | unbondUndelegate (u : Addr) (n : Nat) (v : Addr) (a : Nat) :
      HubOut self sender (.receive u n .unbond) (.undelegate self v a)
  | unbondBurn (u : Addr) (n : Nat) (tok : Addr) :
      HubOut self sender (.receive u n .unbond) (.wasm self tok (.tok (.burn n)) [])
  | convertMint (u : Addr) (n : Nat) (tok : Addr) (a : Nat) :
      HubOut self sender (.receive u n .convert) (.wasm self tok (.tok (.mint u a)) [])
  | convertBurn (u : Addr) (n : Nat) (tok : Addr) :
      HubOut self sender (.receive u n .convert) (.wasm self tok (.tok (.burn n)) [])
  | indexWithdraw (v : Addr) : HubOut self sender .updateGlobalIndex (.withdrawReward self v)
  | indexSwap (disp : Addr) (b s : Nat) :
      HubOut self sender .updateGlobalIndex (.wasm self disp (.disp (.swap b s)) [])
  | indexDispatch (disp : Addr) : HubOut self sender .updateGlobalIndex (.wasm self disp (.disp .dispatch) [])
  | withdrawPay (a : Nat) : HubOut self sender .withdrawUnbonded (.bankSend self sender 0 a)
  | configAddr (d r b s a rw u : Option Addr) (x : Addr) :
      HubOut self sender (.updateConfig d r b s a rw u) (.setWithdrawAddr self x)
  | hookSink : HubOut self sender .swapHook (.wasm self sinkA (.receiveHook self 0 .other) [])
  | airdropSink : HubOut self sender .claimAirdrop (.wasm self sinkA (.receiveHook self 0 .other) [])
  | airdropHook : HubOut self sender .claimAirdrop (.wasm self self (.hub .swapHook) [])
  | proxyRedelegate (src : Addr) (plan : List (Addr × Nat)) (dst : Addr) (a : Nat) :
      HubOut self sender (.redelegateProxy src plan) (.redelegate self src dst a)

namespace HubSt

theorem zipMsgs_mem {mk : Addr → Nat → Msg} : ∀ {vs : List (Addr × Nat)} {ps : List Nat} {x : Msg},
    x ∈ zipMsgs mk vs ps → ∃ v p, x = mk v p := by
  intro vs
  induction vs with
  | nil => intro ps x hx; cases hx
  | cons v vs ih =>
    intro ps x hx
    cases ps with
    | nil => cases hx
    | cons p ps =>
      obtain ⟨v1, v2⟩ := v
      simp only [zipMsgs] at hx
      rcases List.mem_append.mp hx with h | h
      · split at h
        · cases h
        · exact ⟨v1, p, List.mem_singleton.mp h⟩
      · exact ih h

theorem pickValidator_mem {e : HubEnv} {claim : Nat} {ms : List Msg} (hx : pickValidator e claim = .ok ms)
    {x : Msg} (h : x ∈ ms) : ∃ v a, x = .undelegate e.self v a := by
  unfold pickValidator at hx
  simp only [] at hx
  split at hx
  · cases hx
  · cases hx; exact zipMsgs_mem h

theorem delegMsgs_mem {h : HubSt} {e : HubEnv} {p : Nat} {ms : List Msg} (hx : h.delegMsgs e p = .ok ms)
    {x : Msg} (hm : x ∈ ms) : ∃ v a, x = .delegate e.self v a := by
  unfold delegMsgs at hx
  exc_split at hx
  exact zipMsgs_mem hm

end HubSt

open HubSt in
theorem hubExec_out {h h' : HubSt} {e : HubEnv} {sender : Addr} {funds : List (Denom × Nat)} {m : HubMsg}
    {ms : List Msg} (hx : hubExec h e sender funds m = .ok (h', ms)) :
    ∀ x ∈ ms, HubOut e.self sender m x := by
  intro x hm
  cases hubExec_route hx with
  | migrate _ _ _ he | params _ _ _ _ _ _ _ he | checkSlashing _ _ he | setOwner _ _ _ _ he
  | acceptOwnership _ _ _ he => subst he; cases hm
  | bond _ hb =>
    obtain ⟨_, _, _, _, _, _, _, _, _, hd, _, _, rfl⟩ := bondB_spec _ _ _ _ _ _ hb
    rcases List.mem_append.mp hm with hm | hm
    · obtain ⟨v, a, rfl⟩ := delegMsgs_mem hd hm; exact .bondDelegate v a
    · cases List.mem_singleton.mp hm; exact .bondMint _ _
  | bondForStSei _ hb =>
    obtain ⟨_, _, _, _, _, _, _, hd, _, _, rfl⟩ := bondS_spec _ _ _ _ _ _ hb
    rcases List.mem_append.mp hm with hm | hm
    · obtain ⟨v, a, rfl⟩ := delegMsgs_mem hd hm; exact .bondSDelegate v a
    · cases List.mem_singleton.mp hm; exact .bondSMint _ _
  | bondRewards _ hb =>
    obtain ⟨_, _, _, _, _, hd, _⟩ := bondR_spec _ _ _ _ _ _ hb
    obtain ⟨v, a, rfl⟩ := delegMsgs_mem hd hm; exact .rewardsDelegate v a
  | unbondB user amt _ _ _ _ hb =>
    obtain ⟨_, _, _, _, _, _, _, _, _, _, hcase⟩ := unbondB_spec _ _ _ _ _ _ hb
    rcases hcase with ⟨_, um, hp, rfl⟩ | ⟨_, _, rfl⟩
    · rcases List.mem_append.mp hm with hm | hm
      · obtain ⟨v, a, rfl⟩ := pickValidator_mem (processUndelegations_spec _ _ _ _ hp).1 hm
        exact .unbondUndelegate _ _ v a
      · cases List.mem_singleton.mp hm; exact .unbondBurn _ _ _
    · cases List.mem_singleton.mp hm; exact .unbondBurn _ _ _
  | unbondS user amt _ _ _ _ _ hb =>
    obtain ⟨_, _, _, _, _, hcase⟩ := unbondS_spec _ _ _ _ _ _ hb
    rcases hcase with ⟨_, um, hp, rfl⟩ | ⟨_, _, rfl⟩
    · rcases List.mem_append.mp hm with hm | hm
      · obtain ⟨v, a, rfl⟩ := pickValidator_mem (processUndelegations_spec _ _ _ _ hp).1 hm
        exact .unbondUndelegate _ _ v a
      · cases List.mem_singleton.mp hm; exact .unbondBurn _ _ _
    · cases List.mem_singleton.mp hm; exact .unbondBurn _ _ _
  | convertBS user amt _ _ _ _ hb =>
    obtain ⟨_, _, _, _, _, _, _, _, _, _, _, _, _, _, _, _, rfl⟩ := convertBS_spec _ _ _ _ _ _ hb
    rcases List.mem_cons.mp hm with rfl | hm
    · exact .convertMint _ _ _ _
    · cases List.mem_singleton.mp hm; exact .convertBurn _ _ _
  | convertSB user amt _ _ _ _ _ hb =>
    obtain ⟨_, _, _, _, _, _, _, _, _, _, _, _, _, _, _, _, rfl⟩ := convertSB_spec _ _ _ _ _ _ hb
    rcases List.mem_cons.mp hm with rfl | hm
    · exact .convertMint _ _ _ _
    · cases List.mem_singleton.mp hm; exact .convertBurn _ _ _
  | updateGlobalIndex _ hb =>
    obtain ⟨disp, _, _, rfl, _⟩ := updateGlobal_spec hb
    rcases List.mem_append.mp hm with hm | hm
    · obtain ⟨d, _, rfl⟩ := List.mem_map.mp hm; exact .indexWithdraw _
    · rcases List.mem_cons.mp hm with rfl | hm
      · exact .indexSwap _ _ _
      · cases List.mem_singleton.mp hm; exact .indexDispatch _
  | withdrawUnbonded _ hb =>
    obtain ⟨_, _, _, _, _, _, rfl⟩ := withdraw_spec _ _ _ _ _ hb
    cases List.mem_singleton.mp hm; exact .withdrawPay _
  | updateConfig d r b s a rw u _ hb =>
    obtain ⟨_, _, _, _, rfl⟩ := updateConfig_spec hb
    cases d with
    | none => cases hm
    | some x => cases List.mem_singleton.mp hm; exact .configAddr _ _ _ _ _ _ _ x
  | swapHook _ _ _ he => subst he; cases List.mem_singleton.mp hm; exact .hookSink
  | claimAirdrop _ _ _ he =>
    subst he
    rcases List.mem_cons.mp hm with rfl | hm
    · exact .airdropSink
    · cases List.mem_singleton.mp hm; exact .airdropHook
  | redelegateProxy src plan _ _ _ he =>
    subst he
    obtain ⟨p, _, rfl⟩ := List.mem_map.mp hm
    exact .proxyRedelegate _ _ _ _

/-- `hubc` is the address the receive hook is typed for; the mirror messages (`dec`, `inc`) are the
    bSei token's only -/
inductive TokOut (self sender hubc : Addr) : TokMsg → Msg → Prop where
  | dec (m : TokMsg) (r a : Addr) (n : Nat) : TokOut self sender hubc m (.wasm self r (.reward (.decrease a n)) [])
  | inc (m : TokMsg) (r a : Addr) (n : Nat) : TokOut self sender hubc m (.wasm self r (.reward (.increase a n)) [])
  | hookHub (n : Nat) (k : Hook) :
      TokOut self sender hubc (.send hubc n k) (.wasm self hubc (.hub (.receive sender n k)) [])
  | hookOther (c : Addr) (n : Nat) (k : Hook) (hc : c ≠ hubc) :
      TokOut self sender hubc (.send c n k) (.wasm self c (.receiveHook sender n k) [])
  | hookHubFrom (o : Addr) (n : Nat) (k : Hook) :
      TokOut self sender hubc (.sendFrom o hubc n k) (.wasm self hubc (.hub (.receive sender n k)) [])
  | hookOtherFrom (o c : Addr) (n : Nat) (k : Hook) (hc : c ≠ hubc) :
      TokOut self sender hubc (.sendFrom o c n k) (.wasm self c (.receiveHook sender n k) [])
  | slashBurn (n : Nat) (thub : Addr) : TokOut self sender hubc (.burn n) (.wasm self thub (.hub .checkSlashing) [])
  | slashBurnFrom (o : Addr) (n : Nat) (thub : Addr) :
      TokOut self sender hubc (.burnFrom o n) (.wasm self thub (.hub .checkSlashing) [])

theorem TokOut.hook_send (self sender hubc c : Addr) (n : Nat) (k : Hook) :
    TokOut self sender hubc (.send c n k) (receiveMsg self sender c hubc n k) := by
  unfold receiveMsg
  split
  · rename_i h; subst h; exact .hookHub n k
  · exact .hookOther c n k ‹_›

theorem TokOut.hook_sendFrom (self sender hubc o c : Addr) (n : Nat) (k : Hook) :
    TokOut self sender hubc (.sendFrom o c n k) (receiveMsg self sender c hubc n k) := by
  unfold receiveMsg
  split
  · rename_i h; subst h; exact .hookHubFrom o n k
  · exact .hookOtherFrom o c n k ‹_›

theorem bseiExec_out {t t' : Token} {b : Block} {self : Addr} {rw : Res Addr} {hubc sender : Addr}
    {m : TokMsg} {ms : List Msg} (hx : bseiExec t b self rw hubc sender m = .ok (t', ms)) :
    ∀ x ∈ ms, TokOut self sender hubc m x := by
  have two : ∀ {a b : Msg} {P : Msg → Prop}, P a → P b → ∀ x ∈ [a, b], P x := fun ha hb x hx => by
    rcases List.mem_cons.mp hx with rfl | hx
    · exact ha
    · cases List.mem_singleton.mp hx; exact hb
  cases m with
  | transfer to n =>
    simp only [bseiExec] at hx; exc_norm at hx; exc_split at hx
    exact two (.dec ..) (.inc ..)
  | burn n =>
    simp only [bseiExec] at hx; exc_norm at hx; exc_split at hx
    exact List.forall_mem_singleton.mpr (.dec ..)
  | mint to n =>
    simp only [bseiExec] at hx; exc_norm at hx; exc_split at hx
    exact List.forall_mem_singleton.mpr (.inc ..)
  | send c n k =>
    simp only [bseiExec] at hx; exc_norm at hx; exc_split at hx
    exact List.forall_mem_cons.mpr ⟨.dec .., two (.inc ..) (.hook_send ..)⟩
  | transferFrom o to n =>
    simp only [bseiExec] at hx; exc_norm at hx; exc_split at hx
    exact two (.dec ..) (.inc ..)
  | burnFrom o n =>
    simp only [bseiExec] at hx; exc_norm at hx; exc_split at hx
    exact two (.dec ..) (.slashBurnFrom ..)
  | sendFrom o c n k =>
    simp only [bseiExec] at hx; exc_norm at hx; exc_split at hx
    exact List.forall_mem_cons.mpr ⟨.dec .., two (.inc ..) (.hook_sendFrom ..)⟩
  | incAllow sp n ex | decAllow sp n ex =>
    simp only [bseiExec] at hx; exc_norm at hx; exc_split at hx
    exact fun _ h => (List.not_mem_nil h).elim
  | updateMinter _ | updateMarketing => cases hx

theorem stseiExec_out {t t' : Token} {b : Block} {self hubc sender : Addr}
    {m : TokMsg} {ms : List Msg} (hx : stseiExec t b self hubc sender m = .ok (t', ms)) :
    ∀ x ∈ ms, TokOut self sender hubc m x := by
  cases m with
  | burn n =>
    simp only [stseiExec] at hx; exc_norm at hx; exc_split at hx
    exact List.forall_mem_singleton.mpr (.slashBurn ..)
  | send c n k =>
    simp only [stseiExec] at hx; exc_norm at hx; exc_split at hx
    exact List.forall_mem_singleton.mpr (.hook_send ..)
  | burnFrom o n =>
    simp only [stseiExec] at hx; exc_norm at hx; exc_split at hx
    exact List.forall_mem_singleton.mpr (.slashBurnFrom ..)
  | sendFrom o c n k =>
    simp only [stseiExec] at hx; exc_norm at hx; exc_split at hx
    exact List.forall_mem_singleton.mpr (.hook_sendFrom ..)
  | updateMarketing => cases hx
  | _ => simp only [stseiExec] at hx <;> exc_norm at hx <;> exc_split at hx <;> exact fun _ h => (List.not_mem_nil h).elim

inductive RewOut (self sender : Addr) : RewMsg → Msg → Prop where
  | claimPay (rc : Option Addr) (to : Addr) (dn : Denom) (a : Nat) :
      RewOut self sender (.claim rc) (.bankSend self to dn a)
  | swapCoin (sw : Addr) (dn : Denom) (a : Nat) (target : Denom) (funds : List (Denom × Nat)) :
      RewOut self sender .swapToRewardDenom (.wasm self sw (.swapDenom dn a target (some self)) funds)

theorem rewardExec_out {r r' : RewardSt} {self : Addr} {tok dsp : Res Addr} {bal : Denom → Nat}
    {sender : Addr} {m : RewMsg} {ms : List Msg}
    (hx : rewardExec r self tok dsp bal sender m = .ok (r', ms)) : ∀ x ∈ ms, RewOut self sender m x := by
  intro x hm
  cases rewardExec_route hx with
  | claim rc _ _ _ _ _ he => subst he; cases List.mem_singleton.mp hm; exact .claimPay ..
  | swapToRewardDenom _ _ he =>
    subst he
    obtain ⟨dn, _, h2⟩ := List.mem_filterMap.mp hm
    split at h2
    · cases h2; exact .swapCoin ..
    · cases h2
  | updateConfig _ _ _ _ _ he | setOwner _ _ _ he | acceptOwnership _ _ he | indexIdle _ _ _ he
  | indexMoved _ _ _ _ he | increase _ _ _ _ _ _ he | decrease _ _ _ _ _ _ _ _ he
  | updateSwapDenom _ _ _ _ he => subst he; cases hm

inductive DispOut (self : Addr) : DispMsg → Msg → Prop where
  | swapCoin (b s : Nat) (sw : Addr) (src : Denom) (a : Nat) (dst : Denom) (funds : List (Denom × Nat)) :
      DispOut self (.swap b s) (.wasm self sw (.swapDenom src a dst none) funds)
  | pay (to : Addr) (dn : Denom) (a : Nat) : DispOut self .dispatch (.bankSend self to dn a)
  | rebond (hubc : Addr) (funds : List (Denom × Nat)) :
      DispOut self .dispatch (.wasm self hubc (.hub .bondRewards) funds)
  | index (rc : Addr) : DispOut self .dispatch (.wasm self rc (.reward .updateGlobalIndex) [])

theorem dispExec_swap_state {c c' : DispSt} {self : Addr} {env : DispEnv} {sender : Addr} {b st : Nat}
    {ms : List Msg} (hx : dispExec c self env sender (.swap b st) = .ok (c', ms)) : c' = c := by
  simp only [dispExec] at hx
  exc_norm at hx
  generalize List.foldl _ _ _ = acc at hx
  exc_split at hx <;> rfl

theorem dispExec_dispatch {c c' : DispSt} {self : Addr} {env : DispEnv} {sender : Addr} {ms : List Msg}
    (hx : dispExec c self env sender .dispatch = .ok (c', ms)) :
    c' = c ∧ dispatchMsgs c self (env.bal c.stDenom) (env.bal c.bDenom) = .ok ms := by
  simp only [dispExec] at hx
  exc_norm at hx
  exc_split at hx
  exact ⟨rfl, ‹_›⟩

theorem dispatchMsgs_shape {c : DispSt} {self : Addr} {st b : Nat} {ms : List Msg}
    (hx : dispatchMsgs c self st b = .ok ms) :
    ∃ pays re, ms = pays ++ re ++ [Msg.wasm self c.rewardContract (.reward .updateGlobalIndex) []] ∧
      (∀ x ∈ pays, ∃ rcv dn a, x = Msg.bankSend self rcv dn a ∧ (rcv = c.keeper ∨ rcv = c.rewardContract)) ∧
      (∀ x ∈ re, ∃ f, x = Msg.wasm self c.hub (.hub .bondRewards) f) ∧ re.length ≤ 1 := by
  unfold dispatchMsgs at hx
  split at hx
  · cases hx
  · rename_i m1 h1
    split at hx
    · cases hx
    · rename_i m2 h2
      cases hx
      have p1 : ∀ x ∈ m1, ∃ rcv dn a, x = Msg.bankSend self rcv dn a ∧ (rcv = c.keeper ∨ rcv = c.rewardContract) := by
        unfold coinMsgsB at h1
        exc_split at h1
        · exact List.forall_mem_nil _
        · exact List.forall_mem_cons.mpr ⟨⟨_, _, _, rfl, Or.inl rfl⟩,
            List.forall_mem_singleton.mpr ⟨_, _, _, rfl, Or.inr rfl⟩⟩
      unfold coinMsgsSt at h2
      exc_split at h2
      · exact ⟨m1, [], rfl, p1, List.forall_mem_nil _, Nat.zero_le _⟩
      · exact ⟨m1 ++ [.bankSend self c.keeper c.stDenom (keeperCut st c.keeperRate)], [], by rw [List.append_nil],
          List.forall_mem_append.mpr ⟨p1, List.forall_mem_singleton.mpr ⟨_, _, _, rfl, Or.inl rfl⟩⟩,
          List.forall_mem_nil _, Nat.zero_le _⟩
      · exact ⟨m1 ++ [.bankSend self c.keeper c.stDenom (keeperCut st c.keeperRate)],
          [.wasm self c.hub (.hub .bondRewards) [(c.stDenom, st - keeperCut st c.keeperRate)]],
          by simp only [List.append_assoc, List.cons_append, List.nil_append],
          List.forall_mem_append.mpr ⟨p1, List.forall_mem_singleton.mpr ⟨_, _, _, rfl, Or.inl rfl⟩⟩,
          List.forall_mem_singleton.mpr ⟨_, rfl⟩, Nat.le_refl 1⟩

theorem dispatchMsgs_out {c : DispSt} {self : Addr} {a b : Nat} {ms : List Msg}
    (hx : dispatchMsgs c self a b = .ok ms) : ∀ x ∈ ms, DispOut self .dispatch x := by
  obtain ⟨pays, re, rfl, hp, hr, _⟩ := dispatchMsgs_shape hx
  refine List.forall_mem_append.mpr ⟨List.forall_mem_append.mpr ⟨fun x h => ?_, fun x h => ?_⟩,
    List.forall_mem_singleton.mpr (.index _)⟩
  · obtain ⟨_, _, _, rfl, _⟩ := hp x h; exact .pay ..
  · obtain ⟨_, rfl⟩ := hr x h; exact .rebond ..

theorem foldl_msgs (P : Msg → Prop) (f : Res (Nat × Nat × List Msg) → Denom → Res (Nat × Nat × List Msg))
    (hstep : ∀ acc dn v, f acc dn = .ok v → ∃ v0, acc = .ok v0 ∧ ((∀ x ∈ v0.2.2, P x) → ∀ x ∈ v.2.2, P x)) :
    ∀ (l : List Denom) (acc : Res (Nat × Nat × List Msg)) (v : Nat × Nat × List Msg),
      l.foldl f acc = .ok v → ∃ v0, acc = .ok v0 ∧ ((∀ x ∈ v0.2.2, P x) → ∀ x ∈ v.2.2, P x) := by
  intro l
  induction l with
  | nil => intro acc v hx; exact ⟨v, hx, id⟩
  | cons d ds ih =>
    intro acc v hx
    obtain ⟨v1, h1, k1⟩ := ih (f acc d) v hx
    obtain ⟨v0, h0, k0⟩ := hstep acc d v1 h1
    exact ⟨v0, h0, fun h => k1 (k0 h)⟩

theorem dispExec_spec {c c' : DispSt} {self : Addr} {env : DispEnv} {sender : Addr} {m : DispMsg}
    {ms : List Msg} : dispExec c self env sender m = .ok (c', ms) →
    match m with
    | .swap .. | .dispatch => sender = c.hub ∧ c' = c
    | .updateConfig hub rw sd bd k kr =>
      sender = c.owner ∧ sd = none ∧ (∀ x, kr = some x → x ≤ D) ∧ ms = [] ∧
      c' = { c with hub := hub.getD c.hub, rewardContract := rw.getD c.rewardContract,
                    bDenom := bd.getD c.bDenom, keeper := k.getD c.keeper,
                    keeperRate := kr.getD c.keeperRate }
    | .setOwner a => sender = c.owner ∧ ms = [] ∧ c' = { c with newOwner := a }
    | .acceptOwnership => sender = c.newOwner ∧ ms = [] ∧ c' = { c with owner := c.newOwner }
    | .updateSwapContract a => sender = c.owner ∧ ms = [] ∧ c' = { c with swapContract := a }
    | .updateSwapDenom d add => sender = c.owner ∧ ms = [] ∧
      c' = { c with swapDenoms := if add then c.swapDenoms ++ [d] else c.swapDenoms.filter (· ≠ d) }
    | .updateOracle a => sender = c.owner ∧ ms = [] ∧ c' = { c with oracle := a } := by
  intro hx
  cases m with
  | swap a b =>
    refine ⟨?_, dispExec_swap_state hx⟩
    simp only [dispExec] at hx
    exc_norm at hx
    exact Classical.not_not.mp (guard_ok hx).1
  | dispatch =>
    refine ⟨?_, (dispExec_dispatch hx).1⟩
    simp only [dispExec] at hx
    exc_norm at hx
    exact Classical.not_not.mp (guard_ok hx).1
  | updateConfig hub rw sd bd k kr =>
    simp only [dispExec] at hx
    exc_norm at hx
    obtain ⟨hs, hx⟩ := guard_ok hx
    obtain ⟨hsd, hx⟩ := guard_ok hx
    have hn : sd = none := by cases sd with | none => rfl | some x => exact absurd rfl hsd
    cases kr with
    | none => cases hx; exact ⟨Classical.not_not.mp hs, hn, nofun, rfl, rfl⟩
    | some x =>
      simp only [] at hx
      split at hx
      · cases hx
      · rename_i hle
        cases hx
        exact ⟨Classical.not_not.mp hs, hn, fun y hy => by cases hy; omega, rfl, rfl⟩
  | updateSwapDenom d add =>
    simp only [dispExec] at hx
    exc_norm at hx
    obtain ⟨hs, hx⟩ := guard_ok hx
    cases add <;> cases hx <;> exact ⟨Classical.not_not.mp hs, rfl, rfl⟩
  | setOwner a | acceptOwnership | updateSwapContract a | updateOracle a =>
    simp only [dispExec] at hx
    exc_norm at hx
    obtain ⟨hs, hx⟩ := guard_ok hx
    cases hx
    exact ⟨Classical.not_not.mp hs, rfl, rfl⟩

theorem dispExec_out {c c' : DispSt} {self : Addr} {env : DispEnv} {sender : Addr} {m : DispMsg}
    {ms : List Msg} (hx : dispExec c self env sender m = .ok (c', ms)) : ∀ x ∈ ms, DispOut self m x := by
  cases m with
  | swap a b =>
    simp only [dispExec] at hx
    exc_norm at hx
    split at hx
    · cases hx
    · split at hx
      · cases hx
      · rename_i v hv
        have hs : ∀ x ∈ v.2.2, DispOut self (.swap a b) x := by
          obtain ⟨v0, h0, k⟩ := foldl_msgs (DispOut self (.swap a b)) _ (by
            intro acc dn v' hf
            cases acc with
            | error e => cases hf
            | ok v0 =>
              refine ⟨v0, rfl, fun h0 => ?_⟩
              simp only [] at hf
              exc_split at hf
              all_goals first
                | exact h0
                | exact List.forall_mem_append.mpr ⟨h0, List.forall_mem_singleton.mpr (.swapCoin ..)⟩) _ _ v hv
          cases h0
          exact k fun _ h => (List.not_mem_nil h).elim
        exc_split at hx
        all_goals first
          | exact hs
          | exact List.forall_mem_append.mpr ⟨hs, List.forall_mem_singleton.mpr (.swapCoin ..)⟩
  | dispatch =>
    simp only [dispExec] at hx; exc_norm at hx; exc_split at hx
    exact dispatchMsgs_out ‹_›
  | updateConfig _ _ _ _ _ _ => rw [(dispExec_spec hx).2.2.2.1]; exact fun _ h => (List.not_mem_nil h).elim
  | setOwner _ | acceptOwnership | updateSwapContract _ | updateSwapDenom _ _ | updateOracle _ =>
    rw [(dispExec_spec hx).2.1]; exact fun _ h => (List.not_mem_nil h).elim

inductive RegOut : RegMsg → Msg → Prop where
  | removeProxy (v hubc src : Addr) (plan : List (Addr × Nat)) :
      RegOut (.remove v) (.wasm regA hubc (.hub (.redelegateProxy src plan)) [])
  | removeIndex (v hubc : Addr) : RegOut (.remove v) (.wasm regA hubc (.hub .updateGlobalIndex) [])
  | redelProxy (v hubc src : Addr) (plan : List (Addr × Nat)) :
      RegOut (.redelegations v) (.wasm regA hubc (.hub (.redelegateProxy src plan)) [])
  | redelIndex (v hubc : Addr) : RegOut (.redelegations v) (.wasm regA hubc (.hub .updateGlobalIndex) [])

theorem regExec_redelegations {s : Sys} {sender v : Addr} {r' : RegSt} {ms : List Msg}
    (hx : s.regExec sender (.redelegations v) = .ok (r', ms)) :
    s.reg.vals.contains v = false ∧ r' = s.reg ∧
    ((ms = [] ∧ (s.reg.hub = hubA → s.chain.delegSet v = true → s.chain.noRedelegate v = true ∧ 0 < s.chain.deleg v)) ∨
     (s.reg.hub = hubA ∧ s.chain.delegSet v = true ∧
      ∃ p, calculateDelegations (s.chain.deleg v) ((Sys.sortAscAmt s.regValidatorsRaw).map (·.2)) = some p ∧
        ms = [Msg.wasm regA s.reg.hub (.hub (.redelegateProxy v
                (((Sys.sortAscAmt s.regValidatorsRaw).zip p.2).filterMap
                  (fun x => if x.2 = 0 then none else some (x.1.1, x.2))))) [],
              Msg.wasm regA s.reg.hub (.hub .updateGlobalIndex) []])) := by
  simp only [Sys.regExec] at hx
  exc_norm at hx
  obtain ⟨hc, hx⟩ := guard_ok hx
  split at hx
  · cases hx
  · rename_i hq
    cases hx
    refine ⟨by simpa using hc, rfl, ?_⟩
    by_cases hset : s.reg.hub = hubA ∧ s.chain.delegSet v = true
    · rw [if_neg (by simp [hset])] at hq
      simp only [if_pos hset.1] at hq
      split at hq
      · cases hq; exact Or.inl ⟨rfl, fun _ _ => ‹_›⟩
      · split at hq
        · cases hq
        · cases hq; exact Or.inr ⟨hset.1, hset.2, _, ‹_›, rfl⟩
    · rw [if_pos (by simp [hset])] at hq
      cases hq
      exact Or.inl ⟨rfl, fun hh hs => absurd ⟨hh, hs⟩ hset⟩

/-- RemoveValidator drops `v` from the registry and then does what Redelegations does in the state
    without `v` (the two share `redelegate` in the source) -/
theorem regExec_remove {s : Sys} {sender v : Addr} {r' : RegSt} {ms : List Msg}
    (hx : s.regExec sender (.remove v) = .ok (r', ms)) :
    sender = s.reg.owner ∧ r' = { s.reg with vals := s.reg.vals.filter (· ≠ v) } ∧ r'.vals ≠ [] ∧
    ({ s with reg := r' } : Sys).regExec sender (.redelegations v) = .ok (r', ms) := by
  simp only [Sys.regExec] at hx
  exc_norm at hx
  obtain ⟨hs, hx⟩ := guard_ok hx
  obtain ⟨hne, hx⟩ := guard_ok hx
  split at hx
  · cases hx
  · rename_i hq
    cases hx
    refine ⟨Classical.not_not.mp hs, rfl, hne, ?_⟩
    simp only [Sys.regExec, bind, Except.bind, pure, Except.pure, throw, throwThe, MonadExceptOf.throw]
    rw [if_neg (by simp), hq]

theorem regExec_out {s : Sys} {sender : Addr} {m : RegMsg} {r' : RegSt} {ms : List Msg}
    (hx : s.regExec sender m = .ok (r', ms)) : ∀ x ∈ ms, RegOut m x := by
  cases m with
  | remove v =>
    obtain ⟨_, _, _, hx'⟩ := regExec_remove hx
    obtain ⟨_, _, ⟨rfl, _⟩ | ⟨_, _, _, _, rfl⟩⟩ := regExec_redelegations hx'
    · exact fun _ h => (List.not_mem_nil h).elim
    · exact List.forall_mem_cons.mpr ⟨.removeProxy .., List.forall_mem_singleton.mpr (.removeIndex ..)⟩
  | redelegations v =>
    obtain ⟨_, _, ⟨rfl, _⟩ | ⟨_, _, _, _, rfl⟩⟩ := regExec_redelegations hx
    · exact fun _ h => (List.not_mem_nil h).elim
    · exact List.forall_mem_cons.mpr ⟨.redelProxy .., List.forall_mem_singleton.mpr (.redelIndex ..)⟩
  | _ => simp only [Sys.regExec] at hx <;> exc_norm at hx <;> exc_split at hx <;> exact fun _ h => (List.not_mem_nil h).elim

theorem HubOut.sentFrom {self sender : Addr} {m : HubMsg} {x : Msg} (o : HubOut self sender m x) :
    x.sentFrom = self := by cases o <;> rfl
theorem TokOut.sentFrom {self sender hubc : Addr} {m : TokMsg} {x : Msg} (o : TokOut self sender hubc m x) :
    x.sentFrom = self := by cases o <;> rfl
theorem RewOut.sentFrom {self sender : Addr} {m : RewMsg} {x : Msg} (o : RewOut self sender m x) :
    x.sentFrom = self := by cases o <;> rfl
theorem DispOut.sentFrom {self : Addr} {m : DispMsg} {x : Msg} (o : DispOut self m x) :
    x.sentFrom = self := by cases o <;> rfl
theorem RegOut.sentFrom {m : RegMsg} {x : Msg} (o : RegOut m x) : x.sentFrom = regA := by cases o <;> rfl

end Krp
