/-
  Bank.lean — who can lower an account's bank balance: only a message sent from that account
  (a bank transfer out of it, funds attached to a call it makes, or — for the hub — a delegation),
  and then by at most what the message names.
-/
import Krp.Lemmas.Reach
namespace Krp
open Sys

def fundsOf (d : Denom) (l : List (Denom × Nat)) : Nat := ((l.filter (fun c => c.1 = d)).map (·.2)).sum

theorem fundsOf_cons (d : Denom) (c : Denom × Nat) (l : List (Denom × Nat)) :
    fundsOf d (c :: l) = (if c.1 = d then c.2 else 0) + fundsOf d l := by
  unfold fundsOf
  simp only [List.filter_cons]
  split <;> simp_all

/-! A transfer is stated as a balance sheet, without subtraction: what an account holds afterwards
  plus what it paid is what it held before plus what it received.  Every fact below about a bank
  balance after a transfer is read off these two equations. -/

theorem bankMove_flow {s s' : Sys} {src dst : Addr} {d : Denom} {amt : Nat}
    (hx : s.bankMove src dst d amt = .ok s') (a : Addr) (d' : Denom) :
    s'.chain.bank a d' + (if a = src then if d = d' then amt else 0 else 0) =
      s.chain.bank a d' + (if a = dst then if d = d' then amt else 0 else 0) := by
  obtain ⟨_, hle, rfl⟩ := bankMove_ok hx
  by_cases hd : d = d'
  · subst hd
    by_cases h1 : a = dst <;> by_cases h2 : a = src <;> simp_all [Sys.setBank, upd] <;> omega
  · have hd' : ¬ d' = d := fun h => hd h.symm
    by_cases h1 : a = dst <;> by_cases h2 : a = src <;> simp_all [Sys.setBank, upd]

theorem moveFunds_flow {src dst : Addr} : ∀ {l : List (Denom × Nat)} {s s' : Sys},
    s.moveFunds src dst l = .ok s' → ∀ (a : Addr) (d : Denom),
    s'.chain.bank a d + (if a = src then fundsOf d l else 0) =
      s.chain.bank a d + (if a = dst then fundsOf d l else 0) := by
  intro l
  induction l with
  | nil => intro s s' hx a d; cases hx; simp [fundsOf]
  | cons c rest ih =>
    intro s s' hx a d
    obtain ⟨dn, amt⟩ := c
    simp only [Sys.moveFunds] at hx
    split at hx
    · cases hx
    · rename_i s1 h1
      have b1 := bankMove_flow h1 a d
      have b2 := ih hx a d
      have sum : ∀ (p : Prop) [Decidable p] (x y : Nat),
          (if p then x + y else 0) = (if p then x else 0) + if p then y else 0 := by
        intro p _ x y; split <;> rfl
      rw [fundsOf_cons, sum, sum]
      dsimp only
      omega

theorem bankMove_bank (s s' : Sys) (src dst : Addr) (d : Denom) (amt : Nat)
    (hx : s.bankMove src dst d amt = .ok s') (a : Addr) (d' : Denom) :
    s'.chain.bank a d' + (if a = src ∧ d' = d then amt else 0) ≥ s.chain.bank a d' := by
  have := bankMove_flow hx a d'
  by_cases h : a = src ∧ d' = d
  · rw [if_pos h.1, if_pos h.2.symm] at this; rw [if_pos h]; omega
  · rw [if_neg h]
    by_cases h1 : a = src
    · rw [if_pos h1, if_neg (fun e => h ⟨h1, e.symm⟩)] at this; omega
    · rw [if_neg h1] at this; omega

theorem moveFunds_bank (src dst : Addr) (l : List (Denom × Nat)) (s s' : Sys)
    (hx : s.moveFunds src dst l = .ok s') (a : Addr) (d : Denom) :
    s'.chain.bank a d + (if a = src then fundsOf d l else 0) ≥ s.chain.bank a d := by
  have := moveFunds_flow hx a d
  omega

theorem moveFunds_in_eq (src dst : Addr) (hne : src ≠ dst) (l : List (Denom × Nat)) (s s' : Sys)
    (hx : s.moveFunds src dst l = .ok s') (d : Denom) : s'.chain.bank dst d = s.chain.bank dst d + fundsOf d l := by
  have := moveFunds_flow hx dst d
  rw [if_neg (Ne.symm hne), if_pos rfl] at this
  exact this

theorem moveFunds_bank_in (src dst : Addr) (hne : src ≠ dst) (l : List (Denom × Nat)) (s s' : Sys)
    (hx : s.moveFunds src dst l = .ok s') (d : Denom) : s'.chain.bank dst d ≥ s.chain.bank dst d + fundsOf d l :=
  Nat.le_of_eq (moveFunds_in_eq src dst hne l s s' hx d).symm

theorem moveFunds_out_eq (src dst : Addr) (hne : src ≠ dst) (l : List (Denom × Nat)) (s s' : Sys)
    (hx : s.moveFunds src dst l = .ok s') (d : Denom) : s'.chain.bank src d + fundsOf d l = s.chain.bank src d := by
  have := moveFunds_flow hx src d
  rw [if_pos rfl, if_neg hne] at this
  exact this

theorem bankMove_other (s s' : Sys) (src dst : Addr) (d : Denom) (amt : Nat)
    (hx : s.bankMove src dst d amt = .ok s') (a : Addr) (h1 : a ≠ src) (h2 : a ≠ dst) (d' : Denom) :
    s'.chain.bank a d' = s.chain.bank a d' := by
  have := bankMove_flow hx a d'
  rw [if_neg h1, if_neg h2] at this
  exact this

theorem moveFunds_other (src dst : Addr) (l : List (Denom × Nat)) (s s' : Sys)
    (hx : s.moveFunds src dst l = .ok s') (a : Addr) (h1 : a ≠ src) (h2 : a ≠ dst) (d : Denom) :
    s'.chain.bank a d = s.chain.bank a d := by
  have := moveFunds_flow hx a d
  rw [if_neg h1, if_neg h2] at this
  exact this

theorem bankMove_src (s s' : Sys) (src dst : Addr) (d : Denom) (amt : Nat) (hne : src ≠ dst)
    (hx : s.bankMove src dst d amt = .ok s') :
    s'.chain.bank src d + amt = s.chain.bank src d ∧ ∀ d', d' ≠ d → s'.chain.bank src d' = s.chain.bank src d' := by
  refine ⟨?_, fun d' hd => ?_⟩
  · have := bankMove_flow hx src d
    rw [if_pos rfl, if_pos rfl, if_neg hne] at this
    exact this
  · have := bankMove_flow hx src d'
    rw [if_pos rfl, if_neg (Ne.symm hd), if_neg hne] at this
    exact this

/-- the coins of denom `d` that message `m` names as leaving account `a`: the amount of a bank
    transfer, the funds attached to a call, the amount of a delegation (paid in the staking denom) -/
def Msg.takes : Msg → Addr → Denom → Nat
  | .bankSend src _ dn amt, a, d => if src = a ∧ dn = d then amt else 0
  | .delegate who _ amt, a, d => if who = a ∧ d = 0 then amt else 0
  | .wasm sender _ _ f, a, d => if sender = a then fundsOf d f else 0
  | _, _, _ => 0

theorem Msg.takes_of_ne {m : Msg} {a : Addr} (h : m.sentFrom ≠ a) (d : Denom) : m.takes a d = 0 := by
  cases m with
  | bankSend src _ dn amt => exact if_neg fun c => h c.1
  | delegate who _ amt => exact if_neg fun c => h c.1
  | wasm sender _ _ f => exact if_neg h
  | _ => rfl

theorem handle_bank_takes {s s' : Sys} {m : Msg} {ms : List Msg} (hx : s.handle m = .ok (s', ms))
    (a : Addr) (d : Denom) : s'.chain.bank a d + m.takes a d ≥ s.chain.bank a d := by
  cases m with
  | bankSend src dst dn amt =>
    have b := bankMove_flow (handle_bankSend hx).1 a d
    by_cases h1 : a = src <;> by_cases h2 : dn = d <;> simp_all [Msg.takes] <;> omega
  | delegate who v amt =>
    obtain ⟨rfl, _, _, _, _, rfl⟩ := handle_delegate hx
    by_cases h1 : a = hubA <;> by_cases h2 : d = 0 <;> simp_all [Msg.takes, upd] <;> omega
  | undelegate who v amt => obtain ⟨_, _, _, _, _, rfl⟩ := handle_undelegate hx; exact Nat.le_add_right ..
  | redelegate who src dst amt =>
    obtain ⟨_, _, _, _, _, _, _, rfl⟩ := handle_redelegate hx; exact Nat.le_add_right ..
  | withdrawReward who v =>
    obtain ⟨_, _, _, bank, _, rfl, hb, _⟩ := handle_withdrawReward hx
    show bank a d + 0 ≥ _
    rw [hb]
    split <;> omega
  | setWithdrawAddr who x => obtain ⟨_, _, rfl⟩ := handle_setWithdrawAddr hx; exact Nat.le_add_right ..
  | wasm sender target call funds =>
    obtain ⟨s1, h1, hc⟩ := handle_wasm_chain_eq s s' _ _ _ _ ms hx
    have b := moveFunds_flow h1 a d
    rw [hc]
    by_cases h : a = sender <;> simp_all [Msg.takes] <;> omega

theorem handle_bank_ge (s s' : Sys) (m : Msg) (ms : List Msg) (hx : s.handle m = .ok (s', ms))
    (a : Addr) (d : Denom) (hne : m.sentFrom ≠ a) : s'.chain.bank a d ≥ s.chain.bank a d := by
  have := handle_bank_takes hx a d
  rw [Msg.takes_of_ne hne] at this
  exact this

theorem handle_bank_out (s s' : Sys) (m : Msg) (ms : List Msg) (hx : s.handle m = .ok (s', ms))
    (a : Addr) (d : Denom) :
    (∀ dst amt, m = .bankSend a dst d amt → s'.chain.bank a d + amt ≥ s.chain.bank a d) ∧
    (∀ dst d' amt, m = .bankSend a dst d' amt → d' ≠ d → s'.chain.bank a d ≥ s.chain.bank a d) ∧
    (∀ t c f, m = .wasm a t c f → s'.chain.bank a d + fundsOf d f ≥ s.chain.bank a d) := by
  refine ⟨fun dst amt hm => ?_, fun dst d' amt hm hd => ?_, fun t c f hm => ?_⟩
  · subst hm; simpa [Msg.takes] using handle_bank_takes hx a d
  · subst hm; simpa [Msg.takes, hd] using handle_bank_takes hx a d
  · subst hm; simpa [Msg.takes] using handle_bank_takes hx a d

theorem handle_pending (s s' : Sys) (m : Msg) (ms : List Msg) (hx : s.handle m = .ok (s', ms))
    (hm : ∀ d v, m ≠ .withdrawReward d v) : s'.chain.pending = s.chain.pending := by
  cases m with
  | withdrawReward d v => exact absurd rfl (hm d v)
  | bankSend src dst d amt => obtain ⟨_, _, rfl⟩ := bankMove_ok (handle_bankSend hx).1; rfl
  | delegate who v amt => obtain ⟨_, _, _, _, _, rfl⟩ := handle_delegate hx; rfl
  | undelegate who v amt => obtain ⟨_, _, _, _, _, rfl⟩ := handle_undelegate hx; rfl
  | redelegate who a b amt => obtain ⟨_, _, _, _, _, _, _, rfl⟩ := handle_redelegate hx; rfl
  | setWithdrawAddr who a => obtain ⟨_, _, rfl⟩ := handle_setWithdrawAddr hx; rfl
  | wasm a b c d =>
    obtain ⟨s1, h1, hc⟩ := handle_wasm_chain_eq s s' _ _ _ _ ms hx
    obtain ⟨_, rfl⟩ := moveFunds_chain h1
    rw [hc]

end Krp
