import Krp.Reward
import Krp.Lemmas.Maps
import Krp.Lemmas.Tactics
namespace Krp
namespace RewardSt

/-- what holder `a` is owed, in atomics: accrued since its checkpoint plus carried fraction -/
def owed (r : RewardSt) (a : Addr) : Nat := (r.globalIndex - r.hIdx a) * r.hBal a + r.hPend a

/-- invariant of the reward contract (C14, C15) -/
structure Inv (r : RewardSt) : Prop where
  nodup : r.holders.Nodup
  zero : ∀ a, a ∉ r.holders → r.hBal a = 0 ∧ r.hPend a = 0
  idxLe : ∀ a, r.hIdx a ≤ r.globalIndex
  total : sumOn r.holders r.hBal = r.totalBalance
  solvent : sumOn r.holders r.owed ≤ r.prevRewardBalance * D

theorem owed_zero_notin (r : RewardSt) (h : r.Inv) (a : Addr) (ha : a ∉ r.holders) : r.owed a = 0 := by
  have := h.zero a ha
  simp [owed, this.1, this.2]

theorem accrual_ok (r : RewardSt) (h : r.Inv) (a : Addr) :
    r.accrual a = .ok ((r.globalIndex - r.hIdx a) * r.hBal a) := by
  have := h.idxLe a
  unfold accrual
  rw [if_neg (by omega)]

theorem owed_le_sum (r : RewardSt) (h : r.Inv) (a : Addr) : r.owed a ≤ sumOn r.holders r.owed := by
  by_cases ha : a ∈ r.holders
  · have : ∀ (ks : List Addr), a ∈ ks → r.owed a ≤ sumOn ks r.owed := by
      intro ks
      induction ks with
      | nil => intro h; cases h
      | cons k ks ih =>
        intro hm
        simp only [sumOn_cons]
        cases hm with
        | head => omega
        | tail _ h' => have := ih h'; omega
    exact this _ ha
  · rw [owed_zero_notin r h a ha]; exact Nat.zero_le _

/-- `hsolv`: the dues stay covered with `pend` in place of what `a` was owed -/
theorem setHolder_inv (r : RewardSt) (h : r.Inv) (a : Addr) (nb pend tb P : Nat)
    (htb : tb + r.hBal a = r.totalBalance + nb)
    (hsolv : sumOn r.holders r.owed + pend ≤ P * D + r.owed a) :
    Inv ({ r with prevRewardBalance := P, totalBalance := tb }.setHolder a nb r.globalIndex pend) := by
  constructor
  · exact nodup_addKey _ _ h.nodup
  · intro x hx
    simp only [setHolder, mem_addKey, not_or] at hx
    have := h.zero x hx.2
    simp [setHolder, upd, hx.1, this]
  · intro x
    simp only [setHolder, upd]
    split
    · exact Nat.le_refl _
    · exact h.idxLe x
  · show sumOn (addKey r.holders a) (upd r.hBal a nb) = tb
    have := sumOn_addKey r.holders r.hBal (upd r.hBal a nb) a (fun k hk => by simp [upd, hk]) h.nodup
      (fun hn => (h.zero a hn).1)
    simp only [upd_same] at this
    have := h.total
    omega
  · show sumOn (addKey r.holders a) _ ≤ P * D
    have := sumOn_addKey r.holders r.owed
      (owed ({ r with prevRewardBalance := P, totalBalance := tb }.setHolder a nb r.globalIndex pend)) a
      (fun k hk => by simp [owed, setHolder, upd, hk]) h.nodup (fun hn => owed_zero_notin r h a hn)
    have hsame : owed ({ r with prevRewardBalance := P, totalBalance := tb }.setHolder a nb
        r.globalIndex pend) a = pend := by simp [owed, setHolder]
    rw [hsame] at this
    omega

/-- the state the `increase` / `decrease` messages write: `a` checkpointed at the current index,
    what it accrued moved into its pending amount, so that nobody's dues change -/
theorem settle_inv (r : RewardSt) (h : r.Inv) (a : Addr) (nb tb : Nat)
    (htb : tb + r.hBal a = r.totalBalance + nb) :
    Inv { (r.setHolder a nb r.globalIndex ((r.globalIndex - r.hIdx a) * r.hBal a + r.hPend a)) with
          totalBalance := tb } :=
  setHolder_inv r h a nb (r.owed a) tb r.prevRewardBalance htb (Nat.add_le_add_right h.solvent _)

/-- a claim pays out the whole units of what `a` is owed and keeps the fraction pending -/
def claimState (r : RewardSt) (a : Addr) : RewardSt :=
  { r with prevRewardBalance := r.prevRewardBalance - r.owed a / D }.setHolder a (r.hBal a)
    r.globalIndex (r.owed a % D)

theorem claim_inv (r : RewardSt) (h : r.Inv) (a : Addr) (hle : r.owed a / D ≤ r.prevRewardBalance) :
    (r.claimState a).Inv := by
  refine setHolder_inv r h a (r.hBal a) (r.owed a % D) r.totalBalance _ rfl ?_
  have h2 := h.solvent
  have h3 := Nat.div_add_mod (r.owed a) D
  rw [Nat.mul_comm] at h3
  rw [Nat.sub_mul]
  have := Nat.mul_le_mul_right D hle
  omega

theorem sumOn_mul_right (ks : List Addr) (f : Addr → Nat) (c : Nat) :
    sumOn ks (fun a => f a * c) = sumOn ks f * c := by
  induction ks with
  | nil => simp
  | cons k ks ih => simp only [sumOn_cons, ih, Nat.add_mul]

end RewardSt

open RewardSt

/-- `rewardExec` taken apart: for each message who may send it, what is checked, the new state and
    what is emitted (an index update has two outcomes: with no holder it records nothing) -/
inductive RewRoute (r : RewardSt) (self : Addr) (tk dp : Res Addr) (bb : Denom → Nat) (sender : Addr)
    (r' : RewardSt) (ms : List Msg) : RewMsg → Prop where
  | claim (rc : Option Addr) (acc : Nat) (ha : r.accrual sender = .ok acc)
      (hpos : (acc + r.hPend sender) / D ≠ 0) (hle : (acc + r.hPend sender) / D ≤ r.prevRewardBalance)
      (hr : r' = { r with prevRewardBalance := r.prevRewardBalance - (acc + r.hPend sender) / D }.setHolder
        sender (r.hBal sender) r.globalIndex ((acc + r.hPend sender) % D))
      (hm : ms = [.bankSend self (rc.getD sender) r.rewardDenom ((acc + r.hPend sender) / D)]) :
      RewRoute r self tk dp bb sender r' ms (.claim rc)
  | updateConfig (hub : Option Addr) (denom : Option Denom) (swap : Option Addr) (hs : sender = r.owner)
      (hr : r' = { r with hub := hub.getD r.hub, rewardDenom := denom.getD r.rewardDenom,
                          swapContract := swap.getD r.swapContract }) (hm : ms = []) :
      RewRoute r self tk dp bb sender r' ms (.updateConfig hub denom swap)
  | setOwner (a : Addr) (hs : sender = r.owner) (hr : r' = { r with newOwner := a }) (hm : ms = []) :
      RewRoute r self tk dp bb sender r' ms (.setOwner a)
  | acceptOwnership (hs : sender = r.newOwner) (hr : r' = { r with owner := r.newOwner }) (hm : ms = []) :
      RewRoute r self tk dp bb sender r' ms .acceptOwnership
  | swapToRewardDenom (hd : dp = .ok sender) (hr : r' = r)
      (hm : ms = ([0, 1, 2] : List Denom).filterMap (fun dn =>
        if r.swapDenoms.contains dn && bb dn > 0 then
          some (Msg.wasm self r.swapContract (.swapDenom dn (bb dn) r.rewardDenom (some self)) [(dn, bb dn)])
        else none)) :
      RewRoute r self tk dp bb sender r' ms .swapToRewardDenom
  | indexIdle (hd : dp = .ok sender) (hz : r.totalBalance = 0) (hr : r' = r) (hm : ms = []) :
      RewRoute r self tk dp bb sender r' ms .updateGlobalIndex
  | indexMoved (hd : dp = .ok sender) (hz : r.totalBalance ≠ 0) (hle : r.prevRewardBalance ≤ bb r.rewardDenom)
      (hr : r' = { r with prevRewardBalance := bb r.rewardDenom,
                          globalIndex := r.globalIndex +
                            fromRatio (bb r.rewardDenom - r.prevRewardBalance) r.totalBalance })
      (hm : ms = []) : RewRoute r self tk dp bb sender r' ms .updateGlobalIndex
  | increase (a : Addr) (amt acc : Nat) (ht : tk = .ok sender) (ha : r.accrual a = .ok acc)
      (hr : r' = { r.setHolder a (r.hBal a + amt) r.globalIndex (acc + r.hPend a) with
                   totalBalance := r.totalBalance + amt }) (hm : ms = []) :
      RewRoute r self tk dp bb sender r' ms (.increase a amt)
  | decrease (a : Addr) (amt acc : Nat) (ht : tk = .ok sender) (hb : amt ≤ r.hBal a)
      (ha : r.accrual a = .ok acc) (htot : amt ≤ r.totalBalance)
      (hr : r' = { r.setHolder a (r.hBal a - amt) r.globalIndex (acc + r.hPend a) with
                   totalBalance := r.totalBalance - amt }) (hm : ms = []) :
      RewRoute r self tk dp bb sender r' ms (.decrease a amt)
  | updateSwapDenom (d : Denom) (add : Bool) (hs : sender = r.owner)
      (hr : r' = { r with swapDenoms := if add then r.swapDenoms ++ [d] else r.swapDenoms.filter (· ≠ d) })
      (hm : ms = []) : RewRoute r self tk dp bb sender r' ms (.updateSwapDenom d add)

theorem rewardExec_route {r r' : RewardSt} {self : Addr} {tk dp : Res Addr} {bb : Denom → Nat}
    {sender : Addr} {m : RewMsg} {ms : List Msg}
    (hx : rewardExec r self tk dp bb sender m = .ok (r', ms)) : RewRoute r self tk dp bb sender r' ms m := by
  cases m with
  | claim rc =>
    -- not `exc_norm`: it would unfold the recipient's `getD` into a case split
    simp only [rewardExec, bind, Except.bind, pure, Except.pure, throw, throwThe, MonadExceptOf.throw] at hx
    exc_split at hx
    exact .claim rc _ ‹_› ‹_› (by omega) rfl rfl
  | updateConfig hub denom swap =>
    simp only [rewardExec] at hx
    split at hx
    · cases hx
    · cases hx; exact .updateConfig hub denom swap (Classical.not_not.mp ‹_›) rfl rfl
  | setOwner a =>
    simp only [rewardExec] at hx; exc_norm at hx; exc_split at hx
    exact .setOwner a (Classical.not_not.mp ‹_›) rfl rfl
  | acceptOwnership =>
    simp only [rewardExec] at hx; exc_norm at hx; exc_split at hx
    exact .acceptOwnership (Classical.not_not.mp ‹_›) rfl rfl
  | swapToRewardDenom =>
    simp only [rewardExec] at hx; exc_norm at hx; exc_split at hx
    rename_i hs
    cases Classical.not_not.mp hs
    exact .swapToRewardDenom rfl rfl rfl
  | updateGlobalIndex =>
    simp only [rewardExec] at hx; exc_norm at hx; exc_split at hx
    · rename_i hs hz
      cases Classical.not_not.mp hs
      exact .indexIdle rfl hz rfl rfl
    · rename_i hs hz hle
      cases Classical.not_not.mp hs
      exact .indexMoved rfl hz (by omega) rfl rfl
  | increase a amt =>
    simp only [rewardExec] at hx; exc_norm at hx; exc_split at hx
    rename_i hs _ _ ha
    cases Classical.not_not.mp hs
    exact .increase a amt _ rfl ha rfl rfl
  | decrease a amt =>
    simp only [rewardExec] at hx; exc_norm at hx; exc_split at hx
    rename_i hs hb _ _ ha htot
    cases Classical.not_not.mp hs
    exact .decrease a amt _ rfl (by omega) ha (by omega) rfl rfl
  | updateSwapDenom d add =>
    cases add
    all_goals
      simp only [rewardExec] at hx; exc_norm at hx; exc_split at hx
      exact .updateSwapDenom d _ (Classical.not_not.mp ‹_›) rfl rfl

end Krp
