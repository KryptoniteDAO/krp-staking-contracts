import Krp.Hub
import Krp.Lemmas.Tactics
namespace Krp
open HubSt

theorem mulDec_mul_le (a r : Nat) : mulDec a r * D ≤ a * r := Nat.div_mul_le_self _ _

theorem decDiv_mul_le (p r : Nat) : decDiv p r * r ≤ p * D := Nat.div_mul_le_self _ _

theorem fromRatio_mul_le (a b : Nat) : fromRatio a b * b ≤ a * D := Nat.div_mul_le_self _ _

theorem rateOf_mul_le (B S R : Nat) (h : 0 < B ∨ S + R = 0) : rateOf B S R * (S + R) ≤ B * D := by
  unfold rateOf
  split
  · rename_i hz
    cases hz with
    | inl hb => cases h with
      | inl h => omega
      | inr h => rw [h]; simp
    | inr hc => rw [hc]; simp
  · exact fromRatio_mul_le _ _

theorem le_rateOf (r B S R : Nat) (hB : 0 < B) (hC : 0 < S + R) (h : r * (S + R) ≤ B * D) :
    r ≤ rateOf B S R := by
  unfold rateOf
  rw [if_neg (by omega)]
  unfold fromRatio
  exact (Nat.le_div_iff_mul_le hC).mpr h

theorem rateOf_eq (B S R : Nat) :
    rateOf B S R = if B = 0 ∨ S + R = 0 then D else B * D / (S + R) := rfl

/-- adding `p` of backing while issuing at most `p·D/r` claims does not lower the rate -/
theorem rate_mono_add (r B C p m : Nat) (hr : r * C ≤ B * D) (hm : m * r ≤ p * D) :
    r * (C + m) ≤ (B + p) * D := by
  rw [Nat.mul_add, Nat.add_mul, Nat.mul_comm r m]; omega

/-- removing `v ≤ a·r/D` of backing together with `a` claims does not lower the rate -/
theorem rate_mono_sub (r B C a v : Nat) (hr : r * C ≤ B * D) (hv : v * D ≤ a * r) (hvB : v ≤ B) :
    r * (C - a) ≤ (B - v) * D := by
  rw [Nat.mul_sub, Nat.sub_mul, Nat.mul_comm r a]; omega

end Krp
