/-
  Unsent.lean — messages that no contract (or only one) ever emits, read off the shapes of
  Lemmas/Emit:

  * nobody emits the reward contract's `SwapToRewardDenom` (the only message that would make the
    reward contract send away coins other than claim payouts);
  * nobody emits the hub's `WithdrawUnbonded`: a release of matured batches can only be started by
    a top-level transaction;
  * only the hub emits token Mints;
  * `Trg m`: hub Bond / BondForStSei / Receive (the cw20 hook), token Send / SendFrom to the hub.
    No contract emits a Bond, a BondForStSei or a token Send; the hook is emitted only by a token
    handling a Send / SendFrom to the hub. So handling any message that is not such a Send emits
    no trigger — within one transaction only its top-level message (and the hook that message
    produces) can reach a minting handler.
-/
import Krp.Lemmas.Reach
namespace Krp

/-- the reward contract's SwapToRewardDenom, from anyone to anyone -/
def isRwSwap : Msg → Bool
  | .wasm _ _ (.reward .swapToRewardDenom) _ => true
  | _ => false

def NoSwap (ms : List Msg) : Prop := ∀ m ∈ ms, isRwSwap m = false

theorem Emits.noSwap {m x : Msg} (h : Emits m x) : isRwSwap x = false := by
  cases h <;> first | rfl | (rename_i o; cases o <;> rfl)

theorem handle_noSwap (s s' : Sys) (m : Msg) (ms : List Msg) (hx : s.handle m = .ok (s', ms)) : NoSwap ms :=
  fun x h => (handle_emits hx x h).noSwap

/-- the hub's WithdrawUnbonded, from anyone to anyone -/
def isHubWd : Msg → Bool
  | .wasm _ _ (.hub .withdrawUnbonded) _ => true
  | _ => false

def NoWd (ms : List Msg) : Prop := ∀ m ∈ ms, isHubWd m = false

theorem Emits.noWd {m x : Msg} (h : Emits m x) : isHubWd x = false := by
  cases h <;> first | rfl | (rename_i o; cases o <;> rfl)

theorem handle_noWd (s s' : Sys) (m : Msg) (ms : List Msg) (hx : s.handle m = .ok (s', ms)) : NoWd ms :=
  fun x h => (handle_emits hx x h).noWd

/-- a token Mint, from anyone to anyone -/
def isMint : Msg → Bool
  | .wasm _ _ (.tok (.mint _ _)) _ => true
  | _ => false

def NoMint (ms : List Msg) : Prop := ∀ m ∈ ms, isMint m = false

theorem handle_noMint (s s' : Sys) (m : Msg) (ms : List Msg)
    (hm : ∀ a x f, m ≠ .wasm a hubA (.hub x) f)
    (hx : s.handle m = .ok (s', ms)) : NoMint ms := by
  intro x h
  cases handle_emits hx x h with
  | hub o => exact absurd rfl (hm _ _ _)
  | swap => rfl
  | bsei o | stsei o | reward o | disp o | reg o => cases o <;> rfl

/-- messages that lead to a pricing handler which mints tokens (Bond, BondForStSei, the cw20 hook
    and the token Sends to the hub that produce it) -/
def Trg : Msg → Bool
  | .wasm _ _ (.hub .bond) _ => true
  | .wasm _ _ (.hub .bondForStSei) _ => true
  | .wasm _ _ (.hub (.receive _ _ _)) _ => true
  | .wasm _ _ (.tok (.send c _ _)) _ => c == hubA
  | .wasm _ _ (.tok (.sendFrom _ c _ _)) _ => c == hubA
  | _ => false

def NoTrg (ms : List Msg) : Prop := ∀ m ∈ ms, Trg m = false

/-- a token Send / SendFrom whose destination is the hub -/
def sendsToHub (hubc : Addr) : TokMsg → Bool
  | .send c _ _ => c == hubc
  | .sendFrom _ c _ _ => c == hubc
  | _ => false

theorem NoTrg.nil : NoTrg [] := fun _ h => (List.not_mem_nil h).elim
theorem NoTrg.append {x y : List Msg} (h1 : NoTrg x) (h2 : NoTrg y) : NoTrg (x ++ y) :=
  List.forall_mem_append.mpr ⟨h1, h2⟩

theorem hubExec_noTrg (h h' : HubSt) (e : HubEnv) (sender : Addr) (funds : List (Denom × Nat))
    (m : HubMsg) (ms : List Msg) (hx : hubExec h e sender funds m = .ok (h', ms)) : NoTrg ms := by
  intro x hm
  cases hubExec_out hx x hm <;> rfl

theorem handle_noTrg (s s' : Sys) (m : Msg) (ms : List Msg) (hm : Trg m = false)
    (hx : s.handle m = .ok (s', ms)) : NoTrg ms := by
  intro x h
  cases handle_emits hx x h with
  | swap => rfl
  | hub o | reward o | disp o | reg o => cases o <;> rfl
  | bsei o | stsei o => cases o <;> first | rfl | cases hm

end Krp
