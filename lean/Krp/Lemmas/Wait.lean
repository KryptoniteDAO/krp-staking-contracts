/-
  Wait.lean — the wait lists per batch (`claimsB`, `claimsS`: what `addWait` / `delWait` do to the
  sums over a batch's entries) and the release of history entries (`releasable_eq`: the scan returns a
  range of consecutive ids; `processWithdrawRate_spec`).
-/
import Krp.Lemmas.HubFrame
import Krp.Lemmas.Maps
namespace Krp

theorem upd2_other {α β γ : Type} [DecidableEq α] [DecidableEq β] (f : α → β → γ) {u u' : α} {b i : β} (v : γ)
    (h : (u', i) ≠ (u, b)) : upd f u (upd (f u) b v) u' i = f u' i := by
  by_cases hu : u' = u
  · subst hu
    rw [upd_same, upd_other _ _ _ _ (fun e => h (by rw [e]))]
  · rw [upd_other _ _ _ _ hu]

theorem nodup_filter {α : Type} (p : α → Bool) (l : List α) (h : l.Nodup) : (l.filter p).Nodup :=
  List.Pairwise.sublist List.filter_sublist h

theorem sumOn_batch {f g : Addr × Nat → Nat} {a : Addr × Nat} (ks : List (Addr × Nat)) (hn : ks.Nodup)
    (h : ∀ k, k ≠ a → g k = f k) (hz : a ∉ ks → g a = f a) (i : Nat) :
    sumOn (ks.filter (fun k => k.2 = i)) g + (if i = a.2 then f a else 0) =
    sumOn (ks.filter (fun k => k.2 = i)) f + (if i = a.2 then g a else 0) := by
  by_cases hm : a ∈ ks.filter (fun k => k.2 = i)
  · have hi : a.2 = i := of_decide_eq_true (List.mem_filter.mp hm).2
    have := sumOn_except_in _ f g a h (nodup_filter _ _ hn) hm
    rw [if_pos hi.symm, if_pos hi.symm]; exact this
  · rw [sumOn_except_notin _ f g a h hm]
    by_cases hi : i = a.2
    · rw [if_pos hi, if_pos hi, hz (fun hk => hm (List.mem_filter.mpr ⟨hk, decide_eq_true hi.symm⟩))]
    · rw [if_neg hi, if_neg hi]

theorem sumOn_batch_addKey (f : Addr × Nat → Nat) (a : Addr × Nat) (ks : List (Addr × Nat))
    (hz : a ∉ ks → f a = 0) (i : Nat) :
    sumOn ((addKey ks a).filter (fun k => k.2 = i)) f = sumOn (ks.filter (fun k => k.2 = i)) f := by
  unfold addKey
  split
  · rfl
  · rename_i hni
    rw [List.filter_cons]
    split
    · rw [sumOn_cons, hz hni, Nat.zero_add]
    · rfl

namespace HubSt

def keysOf (h : HubSt) (i : Nat) : List (Addr × Nat) := h.waitKeys.filter (fun k => k.2 = i)

/-- Σ over all users of their recorded bSei / stSei claims in batch `i` -/
def claimsB (h : HubSt) (i : Nat) : Nat := sumOn (h.keysOf i) (fun k => h.waitB k.1 k.2)
def claimsS (h : HubSt) (i : Nat) : Nat := sumOn (h.keysOf i) (fun k => h.waitS k.1 k.2)

structure WaitWF (h : HubSt) : Prop where
  nodup : h.waitKeys.Nodup
  zeroB : ∀ u i, (u, i) ∉ h.waitKeys → h.waitB u i = 0
  zeroS : ∀ u i, (u, i) ∉ h.waitKeys → h.waitS u i = 0

theorem addWait_claims (h : HubSt) (wf : h.WaitWF) (u : Addr) (b x y : Nat) :
    (h.addWait u b x y).WaitWF ∧
    (∀ i, (h.addWait u b x y).claimsB i = h.claimsB i + (if i = b then x else 0)) ∧
    (∀ i, (h.addWait u b x y).claimsS i = h.claimsS i + (if i = b then y else 0)) ∧
    (∀ u' i, (u', i) ≠ (u, b) → (h.addWait u b x y).waitB u' i = h.waitB u' i ∧
                                 (h.addWait u b x y).waitS u' i = h.waitS u' i) ∧
    (h.addWait u b x y).waitB u b = h.waitB u b + x ∧ (h.addWait u b x y).waitS u b = h.waitS u b + y := by
  have mem : (u, b) ∈ addKey h.waitKeys (u, b) := (mem_addKey _ _ _).mpr (Or.inl rfl)
  -- a table `w` with entry `(u, b)` raised by `d`, summed over the extended key list
  have sum : ∀ (w : Addr → Nat → Nat) (d : Nat), (∀ u i, (u, i) ∉ h.waitKeys → w u i = 0) → ∀ i,
      sumOn ((addKey h.waitKeys (u, b)).filter (fun k => k.2 = i))
        (fun k => upd w u (upd (w u) b (w u b + d)) k.1 k.2) =
      sumOn (h.waitKeys.filter (fun k => k.2 = i)) (fun k => w k.1 k.2) + (if i = b then d else 0) := by
    intro w d hz i
    have := sumOn_batch (f := fun k => w k.1 k.2) (g := fun k => upd w u (upd (w u) b (w u b + d)) k.1 k.2)
      (a := (u, b)) _ (nodup_addKey _ _ wf.nodup) (fun k hk => upd2_other w _ hk) (fun hn => absurd mem hn) i
    rw [sumOn_batch_addKey (fun k => w k.1 k.2) _ _ (hz u b)] at this
    simp only [upd_same] at this
    by_cases hi : i = b
    · simp only [if_pos hi] at this ⊢; omega
    · simp only [if_neg hi] at this ⊢; omega
  refine ⟨⟨nodup_addKey _ _ wf.nodup, fun u' i hn => ?_, fun u' i hn => ?_⟩, sum h.waitB x wf.zeroB,
    sum h.waitS y wf.zeroS, fun u' i hne => ⟨upd2_other _ _ hne, upd2_other _ _ hne⟩,
    by simp only [addWait, upd_same], by simp only [addWait, upd_same]⟩
  all_goals
    rw [show (h.addWait u b x y).waitKeys = addKey h.waitKeys (u, b) from rfl, mem_addKey, not_or] at hn
  · exact (upd2_other _ _ hn.1).trans (wf.zeroB u' i hn.2)
  · exact (upd2_other _ _ hn.1).trans (wf.zeroS u' i hn.2)

theorem delWait_claims (h : HubSt) (wf : h.WaitWF) (u : Addr) (b : Nat) :
    (h.delWait u b).WaitWF ∧
    (∀ i, (h.delWait u b).claimsB i + (if i = b then h.waitB u b else 0) = h.claimsB i) ∧
    (∀ i, (h.delWait u b).claimsS i + (if i = b then h.waitS u b else 0) = h.claimsS i) ∧
    (∀ u' i, (u', i) ≠ (u, b) → (h.delWait u b).waitB u' i = h.waitB u' i ∧
                                 (h.delWait u b).waitS u' i = h.waitS u' i) := by
  have zero : ∀ (w : Addr → Nat → Nat), (∀ u i, (u, i) ∉ h.waitKeys → w u i = 0) →
      ∀ u' i, (u', i) ∉ h.waitKeys → upd w u (upd (w u) b 0) u' i = 0 := by
    intro w hz u' i hn
    by_cases he : (u', i) = (u, b)
    · cases he; simp only [upd_same]
    · exact (upd2_other w _ he).trans (hz u' i hn)
  have sum : ∀ (w : Addr → Nat → Nat), (∀ u i, (u, i) ∉ h.waitKeys → w u i = 0) → ∀ i,
      sumOn (h.waitKeys.filter (fun k => k.2 = i)) (fun k => upd w u (upd (w u) b 0) k.1 k.2) +
        (if i = b then w u b else 0) =
      sumOn (h.waitKeys.filter (fun k => k.2 = i)) (fun k => w k.1 k.2) := by
    intro w hz i
    have := sumOn_batch (f := fun k => w k.1 k.2) (g := fun k => upd w u (upd (w u) b 0) k.1 k.2)
      (a := (u, b)) _ wf.nodup (fun k hk => upd2_other w _ hk)
      (fun hn => (zero w hz u b hn).trans (hz u b hn).symm) i
    simp only [upd_same, ite_self] at this
    exact this
  exact ⟨⟨wf.nodup, zero h.waitB wf.zeroB, zero h.waitS wf.zeroS⟩, sum h.waitB wf.zeroB, sum h.waitS wf.zeroS,
    fun u' i hne => ⟨upd2_other _ _ hne, upd2_other _ _ hne⟩⟩

/-- the release scan returns a block of consecutive ids from `start`: all of them matured and
    unreleased; and unless the fuel ran out it stopped at an entry that is immature or released, or
    at none -/
theorem releasable_eq (h : HubSt) (cutoff : Nat) : ∀ (fuel start : Nat),
    ∃ k, h.releasable cutoff fuel start = List.range' start k ∧ k ≤ fuel ∧
      (∀ i, start ≤ i → i < start + k → ∃ x, h.hist i = some x ∧ x.released = false ∧ x.time ≤ cutoff) ∧
      (k < fuel → ∀ y, h.hist (start + k) = some y → y.time > cutoff ∨ y.released = true) := by
  intro fuel
  induction fuel with
  | zero => exact fun start => ⟨0, rfl, Nat.le_refl _, fun i _ _ => by omega, fun h0 => absurd h0 (Nat.lt_irrefl _)⟩
  | succ f ih =>
    intro start
    unfold releasable
    cases hx : h.hist start with
    | none => exact ⟨0, rfl, Nat.zero_le _, fun i _ _ => by omega, fun _ y hy => nomatch hx.symm.trans hy⟩
    | some x =>
      simp only []
      by_cases ht : x.time > cutoff
      · rw [if_pos ht]
        exact ⟨0, rfl, Nat.zero_le _, fun i _ _ => by omega, fun _ y hy => by cases hx.symm.trans hy; exact .inl ht⟩
      · rw [if_neg ht]
        by_cases hr : x.released = true
        · rw [if_pos hr]
          exact ⟨0, rfl, Nat.zero_le _, fun i _ _ => by omega, fun _ y hy => by cases hx.symm.trans hy; exact .inr hr⟩
        · rw [if_neg hr]
          obtain ⟨k, he, hk, hm, hs⟩ := ih (start + 1)
          refine ⟨k + 1, by rw [he]; rfl, by omega, fun i h1 h2 => ?_, fun hlt => ?_⟩
          · by_cases hi : i = start
            · subst hi; exact ⟨x, hx, by simpa using hr, by omega⟩
            · exact hm i (by omega) (by omega)
          · have := hs (by omega)
            rwa [show start + 1 + k = start + (k + 1) by omega] at this

theorem releasable_mem (h : HubSt) (cutoff fuel start i : Nat) (hi : i ∈ h.releasable cutoff fuel start) :
    ∃ x, h.hist i = some x ∧ x.released = false ∧ x.time ≤ cutoff := by
  obtain ⟨k, he, _, hm, _⟩ := releasable_eq h cutoff fuel start
  rw [he, List.mem_range'_1] at hi
  exact hm i hi.1 hi.2

theorem releasable_nodup (h : HubSt) (cutoff fuel start : Nat) : (h.releasable cutoff fuel start).Nodup := by
  obtain ⟨k, he, _⟩ := releasable_eq h cutoff fuel start
  rw [he]; exact List.nodup_range'

/-- what `finished` lists for a user are released batches -/
theorem finished_released (h : HubSt) (u : Addr) {i : Nat} (hi : i ∈ (h.finished u).2) :
    ∃ x, h.hist i = some x ∧ x.released = true := by
  simp only [finished, List.mem_filter] at hi
  cases hxi : h.hist i with
  | none => simp [hxi] at hi
  | some x => simp [hxi] at hi; exact ⟨x, rfl, hi.2⟩

theorem foldl_upd_hist (ids : List Nat) (g : Nat → History) (hs : Nat → Option History) (j : Nat) :
    (ids.foldl (fun acc i => upd acc i (some (g i))) hs) j = if j ∈ ids then some (g j) else hs j := by
  induction ids generalizing hs with
  | nil => simp
  | cons i is ih =>
    simp only [List.foldl_cons, ih, List.mem_cons]
    by_cases h1 : j ∈ is
    · simp [h1]
    · by_cases h2 : j = i
      · subst h2; simp [h1]
      · simp [h1, h2, upd]

theorem processWithdrawRate_hist (h h1 : HubSt) (cutoff bal : Nat)
    (hx : h.processWithdrawRate cutoff bal = .ok h1) :
    h1.lastProcessedBatch =
      (h.releasable cutoff (h.batchId + 1) (h.lastProcessedBatch + 1)).getLastD h.lastProcessedBatch ∧
    ∀ j, (j ∈ h.releasable cutoff (h.batchId + 1) (h.lastProcessedBatch + 1) →
            ∃ x sw bw, h.hist j = some x ∧
              h1.hist j = some { x with sWithdraw := sw, bWithdraw := bw, released := true }) ∧
         (j ∉ h.releasable cutoff (h.batchId + 1) (h.lastProcessedBatch + 1) → h1.hist j = h.hist j) := by
  unfold processWithdrawRate at hx
  simp only [] at hx
  split at hx
  · rename_i hnil
    cases hx
    rw [hnil]
    exact ⟨rfl, fun j => ⟨nofun, fun _ => rfl⟩⟩
  · split at hx
    · cases hx
    · cases hx
      refine ⟨rfl, fun j => ?_⟩
      simp only []
      rw [foldl_upd_hist]
      constructor
      · intro hj
        obtain ⟨x, hxj, _, _⟩ := releasable_mem h cutoff _ _ j hj
        rw [if_pos hj]
        exact ⟨h.histOr j, _, _, by rw [histOr, hxj]; rfl, rfl⟩
      · intro hj
        rw [if_neg hj]

/-- `process_withdraw_rate`: only history entries that are unreleased and matured are rewritten,
    they keep their time, amounts and applied rates and become released; everything else — other
    entries, wait lists, batch, pools — is untouched. -/
theorem processWithdrawRate_spec (h h' : HubSt) (cutoff bal : Nat)
    (hx : h.processWithdrawRate cutoff bal = .ok h') :
    h'.waitB = h.waitB ∧ h'.waitS = h.waitS ∧ h'.waitKeys = h.waitKeys ∧ h'.waitSet = h.waitSet ∧
    h'.batchId = h.batchId ∧ h'.reqB = h.reqB ∧ h'.reqS = h.reqS ∧ h'.legacy = h.legacy ∧
    h'.bBond = h.bBond ∧ h'.sBond = h.sBond ∧ h'.prevHubBalance = h.prevHubBalance ∧
    ∀ i, (h.hist i = none → h'.hist i = none) ∧
      ∀ x, h.hist i = some x → ∃ x', h'.hist i = some x' ∧ x'.time = x.time ∧ x'.bAmt = x.bAmt ∧
        x'.sAmt = x.sAmt ∧ x'.bApplied = x.bApplied ∧ x'.sApplied = x.sApplied ∧
        (x.released = true → x' = x) ∧ (x.released = false → x'.released = true → x.time ≤ cutoff) ∧
        (x'.released = false → x' = x) := by
  have hh := (processWithdrawRate_hist h h' cutoff bal hx).2
  obtain ⟨_, _, rfl⟩ := processWithdrawRate_shape hx
  refine ⟨rfl, rfl, rfl, rfl, rfl, rfl, rfl, rfl, rfl, rfl, rfl, fun i => ?_⟩
  by_cases hi : i ∈ h.releasable cutoff (h.batchId + 1) (h.lastProcessedBatch + 1)
  · obtain ⟨x, _, _, hxi, hx'⟩ := (hh i).1 hi
    obtain ⟨x0, hx0, hrel, htime⟩ := releasable_mem h cutoff _ _ i hi
    cases hxi.symm.trans hx0
    refine ⟨fun hn => absurd (hn.symm.trans hxi) nofun, fun y hy => ?_⟩
    cases hxi.symm.trans hy
    exact ⟨_, hx', rfl, rfl, rfl, rfl, rfl, fun hr => absurd (hrel.symm.trans hr) nofun, fun _ _ => htime, nofun⟩
  · rw [(hh i).2 hi]
    exact ⟨id, fun x hx' => ⟨x, hx', rfl, rfl, rfl, rfl, rfl, fun _ => rfl,
      fun h1 h2 => absurd (h1.symm.trans h2) nofun, fun _ => rfl⟩⟩

theorem delWait_fold_spec (ids : List Nat) (u : Addr) (h : HubSt) :
    let r := ids.foldl (fun hh i => hh.delWait u i) h
    r.hist = h.hist ∧ r.batchId = h.batchId ∧ r.reqB = h.reqB ∧ r.reqS = h.reqS ∧
    r.lastProcessedBatch = h.lastProcessedBatch ∧ r.bBond = h.bBond ∧ r.sBond = h.sBond ∧
    (∀ u' i, u' ≠ u → r.waitSet u' i = h.waitSet u' i ∧ r.waitB u' i = h.waitB u' i ∧ r.waitS u' i = h.waitS u' i) ∧
    (∀ i, r.waitSet u i = (if i ∈ ids then false else h.waitSet u i) ∧
          r.waitB u i = (if i ∈ ids then 0 else h.waitB u i) ∧
          r.waitS u i = (if i ∈ ids then 0 else h.waitS u i)) := by
  induction ids generalizing h with
  | nil => simp
  | cons b bs ih =>
    simp only [List.foldl_cons]
    have r := ih (h.delWait u b)
    simp only [] at r
    refine ⟨r.1, r.2.1, r.2.2.1, r.2.2.2.1, r.2.2.2.2.1, r.2.2.2.2.2.1, r.2.2.2.2.2.2.1, ?_, ?_⟩
    · intro u' i hne
      have := r.2.2.2.2.2.2.2.1 u' i hne
      simp only [delWait, upd, hne, if_false] at this
      exact this
    · intro i
      have := r.2.2.2.2.2.2.2.2 i
      simp only [List.mem_cons]
      by_cases h1 : i ∈ bs
      · simp only [h1, if_true, or_true] at this ⊢; exact this
      · simp only [h1, if_false, or_false] at this ⊢
        by_cases h2 : i = b
        · subst h2; simp [delWait] at this ⊢; exact this
        · simp [delWait, upd, h2] at this ⊢; exact this

end HubSt
end Krp
