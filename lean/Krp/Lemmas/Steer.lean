/-
  Steer.lean — which messages can put stake on a given validator `v`, and who emits them.

  `Bad v m`: message `m`, if handled, could add to the hub's delegation on `v` or bring `v` back
  into the registry: a Delegate to `v`, a Redelegate to `v`, a RedelegateProxy whose plan names `v`,
  a registry AddValidator for `v`.  No contract emits such a message while `v` is not registered:
  the hub delegates only to validators the registry returns, forwards a proxy plan as is, and the
  registry plans redelegations over its current validators only.
-/
import Krp.Props.C02
namespace Krp
open HubSt

def Bad (v : Addr) : Msg → Prop
  | .delegate _ v' _ => v' = v
  | .redelegate _ _ dst _ => dst = v
  | .wasm _ _ (.hub (.redelegateProxy _ plan)) _ => ∃ p ∈ plan, p.1 = v
  | .wasm _ _ (.reg (.add v')) _ => v' = v
  | _ => False

def AllOk (v : Addr) (ms : List Msg) : Prop := ∀ m ∈ ms, ¬ Bad v m

theorem AllOk.nil (v : Addr) : AllOk v [] := fun _ h => (List.not_mem_nil h).elim
theorem AllOk.cons {v : Addr} {m : Msg} {ms : List Msg} (h1 : ¬ Bad v m) (h2 : AllOk v ms) : AllOk v (m :: ms) :=
  List.forall_mem_cons.mpr ⟨h1, h2⟩
theorem AllOk.append {v : Addr} {x y : List Msg} (h1 : AllOk v x) (h2 : AllOk v y) : AllOk v (x ++ y) :=
  List.forall_mem_append.mpr ⟨h1, h2⟩

/-- stake scheduled to leave `v`: pending Redelegate messages from `v` and pending proxy plans for `v`
    addressed to the hub -/
def leaving (v : Addr) : Msg → Nat
  | .redelegate _ src _ amt => if src = v then amt else 0
  | .wasm _ t (.hub (.redelegateProxy src plan)) _ => if t = hubA ∧ src = v then (plan.map (·.2)).sum else 0
  | _ => 0

def leavingAll (v : Addr) (q : List Msg) : Nat := (q.map (leaving v)).sum

theorem leavingAll_append (v : Addr) (x y : List Msg) : leavingAll v (x ++ y) = leavingAll v x + leavingAll v y := by
  simp [leavingAll]

theorem leavingAll_cons (v : Addr) (m : Msg) (q : List Msg) : leavingAll v (m :: q) = leaving v m + leavingAll v q := by
  simp [leavingAll]

theorem leavingAll_redelegates (v self src : Addr) (plan : List (Addr × Nat)) :
    leavingAll v (plan.map fun p => Msg.redelegate self src p.1 p.2) =
      if src = v then (plan.map (·.2)).sum else 0 := by
  induction plan with
  | nil => split <;> rfl
  | cons p ps ih =>
    rw [List.map_cons, leavingAll_cons, ih]
    simp only [leaving, List.map_cons, List.sum_cons]
    split <;> rfl

theorem leaving_elsewhere (v : Addr) {a b : Addr} {c : Call} {d : List (Denom × Nat)} (hb : b ≠ hubA) :
    leaving v (.wasm a b c d) = 0 := by
  cases c with
  | hub hm =>
    cases hm with
    | redelegateProxy src plan => exact if_neg fun h => hb h.1
    | _ => rfl
  | _ => rfl

theorem idle_all {v : Addr} {ms : List Msg} (h : ∀ m ∈ ms, ¬ Bad v m ∧ leaving v m = 0) :
    AllOk v ms ∧ leavingAll v ms = 0 := by
  refine ⟨fun m hm => (h m hm).1, ?_⟩
  induction ms with
  | nil => rfl
  | cons m ms ih =>
    rw [leavingAll_cons, (h m (List.mem_cons_self ..)).2, ih fun x hx => h x (List.mem_cons_of_mem _ hx)]

theorem Emits.idle (v : Addr) {a b : Addr} {c : Call} {d : List (Denom × Nat)} {x : Msg}
    (h : Emits (.wasm a b c d) x) (hh : b ≠ hubA) (hr : b ≠ regA) : ¬ Bad v x ∧ leaving v x = 0 := by
  cases h with
  | hub o => exact absurd rfl hh
  | reg o => exact absurd rfl hr
  | swap => exact ⟨id, rfl⟩
  | bsei o | stsei o | reward o | disp o => cases o <;> exact ⟨id, rfl⟩

theorem delegs_ok (v : Addr) (h : HubSt) (e : HubEnv) (p : Nat) (ms : List Msg)
    (hreg : ∀ reg vs, h.registry = some reg → e.validatorsOf reg = .ok vs → v ∉ vs.map (·.1))
    (hx : h.delegMsgs e p = .ok ms) : AllOk v ms ∧ leavingAll v ms = 0 := by
  obtain ⟨_, reg, vs, hr, hvs, hall⟩ := C02_bond_delegated_in_full h e p ms hx
  refine idle_all fun m hm => ?_
  obtain ⟨v', a, rfl, hin, _⟩ := hall m hm
  exact ⟨fun hb => hreg reg vs hr hvs ((show v' = v from hb) ▸ hin), rfl⟩

open HubSt in
theorem hubExec_steer (v : Addr) (h h' : HubSt) (e : HubEnv) (sender : Addr) (funds : List (Denom × Nat))
    (m : HubMsg) (ms : List Msg) (hx : hubExec h e sender funds m = .ok (h', ms))
    (hreg : ∀ reg vs, h.registry = some reg → e.validatorsOf reg = .ok vs → v ∉ vs.map (·.1))
    (hm : ∀ src plan, m = .redelegateProxy src plan → ∀ p ∈ plan, p.1 ≠ v) :
    AllOk v ms ∧ leavingAll v ms = (match m with
      | .redelegateProxy src plan => if src = v then (plan.map (·.2)).sum else 0
      | _ => 0) := by
  cases hubExec_route hx with
  | bond _ hb =>
    obtain ⟨p, _, _, dl, _, _, _, _, _, hd, _, _, rfl⟩ := bondB_spec _ _ _ _ _ _ hb
    have d := delegs_ok v h e p dl hreg hd
    exact ⟨AllOk.append d.1 (AllOk.cons id (AllOk.nil v)), by rw [leavingAll_append, d.2]; rfl⟩
  | bondForStSei _ hb =>
    obtain ⟨p, _, dl, _, _, _, _, hd, _, _, rfl⟩ := bondS_spec _ _ _ _ _ _ hb
    have d := delegs_ok v h e p dl hreg hd
    exact ⟨AllOk.append d.1 (AllOk.cons id (AllOk.nil v)), by rw [leavingAll_append, d.2]; rfl⟩
  | bondRewards _ hb =>
    obtain ⟨p, _, _, _, _, hd, _⟩ := bondR_spec _ _ _ _ _ _ hb
    exact delegs_ok v h e p ms hreg hd
  | redelegateProxy src plan _ _ _ he =>
    subst he
    refine ⟨fun x hx' hb => ?_, leavingAll_redelegates v e.self src plan⟩
    obtain ⟨p, hp, rfl⟩ := List.mem_map.mp hx'
    exact hm src plan rfl p hp hb
  | _ => exact idle_all fun x hx' => by cases hubExec_out hx x hx' <;> exact ⟨id, rfl⟩

theorem mem_insAsc (x y : Nat) (l : List Nat) : y ∈ insAsc x l → y = x ∨ y ∈ l := by
  induction l with
  | nil => exact fun h => Or.inl (List.mem_singleton.mp h)
  | cons z zs ih =>
    simp only [insAsc]
    split
    · exact List.mem_cons.mp
    · split
      · exact Or.inr
      · intro h
        rcases List.mem_cons.mp h with rfl | h
        · exact Or.inr (List.mem_cons_self ..)
        · exact (ih h).imp_right (List.mem_cons_of_mem _)

theorem perm_insAscAmt (x : Addr × Nat) (l : List (Addr × Nat)) : (Sys.insAscAmt x l).Perm (x :: l) := by
  induction l with
  | nil => exact .refl _
  | cons y ys ih =>
    simp only [Sys.insAscAmt]
    split
    · exact .refl _
    · exact (ih.cons y).trans (.swap x y ys)

theorem perm_sortAscAmt (l : List (Addr × Nat)) : (Sys.sortAscAmt l).Perm l := by
  induction l with
  | nil => exact .refl _
  | cons z zs ih => exact (perm_insAscAmt z _).trans (ih.cons z)

theorem mem_sorted_validators (s : Sys) (v : Addr) :
    v ∈ (Sys.sortAscAmt s.regValidatorsRaw).map (·.1) ↔ v ∈ s.reg.vals := by
  simp only [List.mem_map, (perm_sortAscAmt _).mem_iff, Sys.regValidatorsRaw]
  constructor
  · rintro ⟨_, ⟨w, hw, rfl⟩, rfl⟩; exact hw
  · exact fun hv => ⟨_, ⟨v, hv, rfl⟩, rfl⟩

theorem validatorsOf_mem {s : Sys} {reg : Addr} {vs : List (Addr × Nat)} (h : s.validatorsOf reg = .ok vs)
    (v : Addr) : v ∈ vs.map (·.1) ↔ v ∈ s.reg.vals := by
  unfold Sys.validatorsOf at h
  split at h
  · cases h; exact mem_sorted_validators s v
  · cases h

theorem zip_index (vs : List (Addr × Nat)) (p : List Nat) (x : (Addr × Nat) × Nat) (hx : x ∈ vs.zip p) :
    ∃ j, nth p j = x.2 ∧ nth (vs.map (·.2)) j = x.1.2 := by
  induction vs generalizing p with
  | nil => cases hx
  | cons v vs ih =>
    cases p with
    | nil => cases hx
    | cons a as =>
      rcases List.mem_cons.mp hx with rfl | h
      · exact ⟨0, rfl, rfl⟩
      · obtain ⟨j, h1, h2⟩ := ih as h
        exact ⟨j + 1, h1, h2⟩

theorem plan_mem (vs : List (Addr × Nat)) (p : List Nat) (t : Addr × Nat)
    (ht : t ∈ (vs.zip p).filterMap (fun x => if x.2 = 0 then none else some (x.1.1, x.2))) :
    0 < t.2 ∧ ∃ j held, nth p j = t.2 ∧ (t.1, held) ∈ vs ∧ nth (vs.map (·.2)) j = held := by
  obtain ⟨x, hx, he⟩ := List.mem_filterMap.mp ht
  split at he
  · cases he
  · cases he
    obtain ⟨j, h1, h2⟩ := zip_index vs p x hx
    exact ⟨Nat.pos_of_ne_zero ‹_›, j, x.1.2, h1, (List.of_mem_zip hx).1, h2⟩

theorem redelegations_ok {v : Addr} {s : Sys} {sender w : Addr} {r' : RegSt} {ms : List Msg}
    (hx : s.regExec sender (.redelegations w) = .ok (r', ms)) (hv : v ∉ s.reg.vals) :
    AllOk v ms ∧ v ∉ r'.vals := by
  obtain ⟨_, rfl, ⟨rfl, _⟩ | ⟨_, _, p, _, rfl⟩⟩ := regExec_redelegations hx
  · exact ⟨AllOk.nil v, hv⟩
  · refine ⟨AllOk.cons ?_ (AllOk.cons id (AllOk.nil v)), hv⟩
    rintro ⟨t, ht, rfl⟩
    obtain ⟨_, _, held, _, hy, _⟩ := plan_mem _ _ t ht
    exact hv ((mem_sorted_validators s t.1).mp (List.mem_map.mpr ⟨(t.1, held), hy, rfl⟩))

theorem regExec_steer (v : Addr) (s : Sys) (sender : Addr) (m : RegMsg) (r' : RegSt) (ms : List Msg)
    (hx : s.regExec sender m = .ok (r', ms)) (hv : v ∉ s.reg.vals) (hm : ∀ v', m = .add v' → v' ≠ v) :
    AllOk v ms ∧ v ∉ r'.vals := by
  cases m with
  | add v' =>
    simp only [Sys.regExec] at hx
    exc_norm at hx
    cases (guard_ok hx).2
    exact ⟨AllOk.nil v, fun hin => (mem_insAsc v' v _ hin).elim (fun h => hm v' rfl h.symm) hv⟩
  | remove w =>
    obtain ⟨_, rfl, _, hx'⟩ := regExec_remove hx
    exact redelegations_ok hx' fun h => hv (List.mem_filter.mp h).1
  | redelegations w => exact redelegations_ok hx hv
  | updateConfig _ | setOwner _ | acceptOwnership =>
    simp only [Sys.regExec] at hx
    exc_norm at hx
    cases (guard_ok hx).2
    exact ⟨AllOk.nil v, hv⟩

end Krp
