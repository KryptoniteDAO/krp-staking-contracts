/-
  Lemmas/Cw20.lean — the token ledger.  Each operation is inverted once (guards, and the new ledger
  written out); from that: the supply and every single account before and after, and — on a ledger
  whose balances sum to the supply (`Token.WF`) — that the sum is kept (`Token.Step`).  The two
  wrappers are a ledger step (`Token.core`) plus the messages they emit (`bseiOut` for bSei).
-/
import Krp.Cw20
import Krp.Lemmas.Maps
import Krp.Lemmas.Tactics
namespace Krp
namespace Token

structure WF (t : Token) : Prop where
  nodup : t.holders.Nodup
  zero : ∀ a, a ∉ t.holders → t.bal a = 0
  sum : sumOn t.holders t.bal = t.supply

structure Step (t t' : Token) (dSupplyUp dSupplyDown : Nat) : Prop where
  wf : t'.WF
  supply : t'.supply + dSupplyDown = t.supply + dSupplyUp
  hub : t'.hub = t.hub
  legacy : t'.legacy = t.legacy

theorem setBal_sum (t : Token) (h : t.WF) (a : Addr) (v : Nat) :
    (t.setBal a v).holders.Nodup ∧ (∀ x, x ∉ (t.setBal a v).holders → (t.setBal a v).bal x = 0) ∧
    sumOn (t.setBal a v).holders (t.setBal a v).bal + t.bal a = t.supply + v := by
  refine ⟨nodup_addKey _ _ h.nodup, ?_, ?_⟩
  · intro x hx
    simp only [setBal, mem_addKey, not_or] at hx
    simp [setBal, upd, hx.1, h.zero x hx.2]
  · have := sumOn_addKey t.holders t.bal (upd t.bal a v) a (fun k hk => by simp [upd, hk]) h.nodup (h.zero a)
    simp only [upd_same] at this
    have := h.sum
    simp only [setBal]; omega

theorem setBal_wf (t : Token) (h : t.WF) (a : Addr) (v s : Nat) (hs : s + t.bal a = t.supply + v) :
    WF { (t.setBal a v) with supply := s } := by
  have := setBal_sum t h a v
  exact ⟨this.1, this.2.1, by show sumOn (t.setBal a v).holders (t.setBal a v).bal = s; omega⟩

theorem bal_le_supply (t : Token) (h : t.WF) (a : Addr) : t.bal a ≤ t.supply := by
  have := setBal_sum t h a 0; omega

theorem setBal_sub (t : Token) (k : Addr) (n : Nat) (a : Addr) (h : n ≤ t.bal k) :
    (t.setBal k (t.bal k - n)).bal a + (if k = a then n else 0) = t.bal a := by
  by_cases hk : k = a
  · subst hk; simp only [setBal, upd_same, if_true]; omega
  · simp only [setBal, upd, Ne.symm hk, hk, if_false, Nat.add_zero]

theorem setBal_add (t : Token) (k : Addr) (n : Nat) (a : Addr) :
    (t.setBal k (t.bal k + n)).bal a = t.bal a + (if k = a then n else 0) := by
  by_cases hk : k = a
  · subst hk; simp only [setBal, upd_same, if_true]
  · simp only [setBal, upd, Ne.symm hk, hk, if_false, Nat.add_zero]

theorem move_ok {t t' : Token} {src dst : Addr} {amt : Nat} (hx : t.move src dst amt = .ok t') :
    amt ≤ t.bal src ∧
    t' = (t.setBal src (t.bal src - amt)).setBal dst ((t.setBal src (t.bal src - amt)).bal dst + amt) := by
  unfold move at hx
  split at hx
  · cases hx
  · cases hx; exact ⟨by omega, rfl⟩

theorem transfer_ok {t t' : Token} {s d : Addr} {amt : Nat} (hx : t.transfer s d amt = .ok t') :
    amt ≠ 0 ∧ t.move s d amt = .ok t' := by
  unfold transfer at hx
  split at hx
  · cases hx
  · exact ⟨‹_›, hx⟩

theorem burn_ok {t t' : Token} {s : Addr} {amt : Nat} (hx : t.burn s amt = .ok t') :
    amt ≠ 0 ∧ amt ≤ t.bal s ∧ amt ≤ t.supply ∧
    t' = { (t.setBal s (t.bal s - amt)) with supply := t.supply - amt } := by
  unfold burn at hx
  exc_split at hx
  exact ⟨‹_›, by omega, by omega, rfl⟩

theorem mint_ok {t t' : Token} {s d : Addr} {amt : Nat} (hx : t.mint s d amt = .ok t') :
    amt ≠ 0 ∧ t.minter = some s ∧ t' = { (t.setBal d (t.bal d + amt)) with supply := t.supply + amt } := by
  unfold mint at hx
  exc_split at hx
  exact ⟨‹_›, Classical.not_not.mp ‹_›, rfl⟩

theorem incAllow_ok {t t' : Token} {b : Block} {o s : Addr} {amt : Nat} {e : Option Expiry}
    (hx : t.incAllow b o s amt e = .ok t') : ∃ a x, t' = t.setAllow o s a x := by
  unfold incAllow at hx
  exc_split at hx
  all_goals exact ⟨_, _, rfl⟩

theorem decAllow_ok {t t' : Token} {b : Block} {o s : Addr} {amt : Nat} {e : Option Expiry}
    (hx : t.decAllow b o s amt e = .ok t') : (∃ a x, t' = t.setAllow o s a x) ∨ t' = t.delAllow o s := by
  unfold decAllow at hx
  exc_split at hx
  all_goals first
    | exact .inl ⟨_, _, rfl⟩
    | exact .inr rfl

theorem deduct_spec (t t' : Token) (b : Block) (o s : Addr) (amt : Nat)
    (hx : t.deduct b o s amt = .ok t') :
    t.allowSet o s = true ∧ (t.allowExp o s).isExpired b = false ∧ amt ≤ t.allowAmt o s ∧
    t'.allowAmt o s = t.allowAmt o s - amt ∧
    t' = t.setAllow o s (t.allowAmt o s - amt) (t.allowExp o s) := by
  unfold deduct at hx
  exc_split at hx
  rename_i h1 h2 h3
  refine ⟨by simpa using h1, by simpa using h2, by omega, by simp [setAllow], rfl⟩

theorem transferFrom_ok {t t' : Token} {b : Block} {sp o d : Addr} {amt : Nat}
    (hx : t.transferFrom b sp o d amt = .ok t') :
    ∃ t1, t.deduct b o sp amt = .ok t1 ∧ t1.move o d amt = .ok t' := by
  unfold transferFrom at hx
  split at hx
  · cases hx
  · exact ⟨_, ‹_›, hx⟩

theorem burnFrom_ok {t t' : Token} {b : Block} {sp o : Addr} {amt : Nat}
    (hx : t.burnFrom b sp o amt = .ok t') :
    ∃ t1, t.deduct b o sp amt = .ok t1 ∧ amt ≤ t1.bal o ∧ amt ≤ t1.supply ∧
      t' = { (t1.setBal o (t1.bal o - amt)) with supply := t1.supply - amt } := by
  unfold burnFrom at hx
  split at hx
  · cases hx
  · exc_split at hx
    exact ⟨_, ‹_›, by omega, by omega, rfl⟩

theorem move_supply (t t' : Token) (a b : Addr) (n : Nat) (hx : t.move a b n = .ok t') :
    t'.supply = t.supply := by
  obtain ⟨_, rfl⟩ := move_ok hx; rfl

theorem transfer_supply (t t' : Token) (a b : Addr) (n : Nat) (hx : t.transfer a b n = .ok t') :
    t'.supply = t.supply :=
  move_supply _ _ _ _ _ (transfer_ok hx).2

theorem deduct_supply (t t' : Token) (blk : Block) (o s : Addr) (n : Nat) (hx : t.deduct blk o s n = .ok t') :
    t'.supply = t.supply := by
  rw [(deduct_spec _ _ _ _ _ _ hx).2.2.2.2]; rfl

theorem transferFrom_supply (t t' : Token) (blk : Block) (s o b : Addr) (n : Nat)
    (hx : t.transferFrom blk s o b n = .ok t') : t'.supply = t.supply := by
  obtain ⟨t1, h1, h2⟩ := transferFrom_ok hx
  rw [move_supply _ _ _ _ _ h2, deduct_supply _ _ _ _ _ _ h1]

theorem incAllow_supply (t t' : Token) (blk : Block) (o s : Addr) (n : Nat) (e : Option Expiry)
    (hx : t.incAllow blk o s n e = .ok t') : t'.supply = t.supply := by
  obtain ⟨_, _, rfl⟩ := incAllow_ok hx; rfl

theorem decAllow_supply (t t' : Token) (blk : Block) (o s : Addr) (n : Nat) (e : Option Expiry)
    (hx : t.decAllow blk o s n e = .ok t') : t'.supply = t.supply := by
  rcases decAllow_ok hx with ⟨_, _, rfl⟩ | rfl <;> rfl

theorem move_bal {t t' : Token} {src dst : Addr} {amt : Nat} (hx : t.move src dst amt = .ok t') (a : Addr) :
    t'.bal a + (if src = a then amt else 0) = t.bal a + (if dst = a then amt else 0) := by
  obtain ⟨hle, rfl⟩ := move_ok hx
  have h1 := setBal_sub t src amt a hle
  have h2 := setBal_add (t.setBal src (t.bal src - amt)) dst amt a
  omega

theorem transferFrom_bal {t t' : Token} {b : Block} {sp o d : Addr} {amt : Nat}
    (hx : t.transferFrom b sp o d amt = .ok t') (a : Addr) :
    t'.bal a + (if o = a then amt else 0) = t.bal a + (if d = a then amt else 0) := by
  obtain ⟨t1, hd, hmv⟩ := transferFrom_ok hx
  have hb := move_bal hmv a
  rw [(deduct_spec _ _ _ _ _ _ hd).2.2.2.2] at hb
  exact hb

theorem burn_bal {t t' : Token} {s : Addr} {amt : Nat} (hx : t.burn s amt = .ok t') (a : Addr) :
    t'.bal a + (if s = a then amt else 0) = t.bal a ∧ t'.supply + amt = t.supply := by
  obtain ⟨_, hle, hs, rfl⟩ := burn_ok hx
  exact ⟨setBal_sub t s amt a hle, Nat.sub_add_cancel hs⟩

theorem burnFrom_bal {t t' : Token} {b : Block} {sp o : Addr} {amt : Nat}
    (hx : t.burnFrom b sp o amt = .ok t') (a : Addr) :
    t'.bal a + (if o = a then amt else 0) = t.bal a ∧ t'.supply + amt = t.supply := by
  obtain ⟨t1, hd, hle, hs, rfl⟩ := burnFrom_ok hx
  obtain rfl := (deduct_spec _ _ _ _ _ _ hd).2.2.2.2
  exact ⟨setBal_sub t o amt a hle, Nat.sub_add_cancel hs⟩

theorem mint_bal {t t' : Token} {s d : Addr} {amt : Nat} (hx : t.mint s d amt = .ok t') (a : Addr) :
    t'.bal a = t.bal a + (if d = a then amt else 0) ∧ t'.supply = t.supply + amt := by
  obtain ⟨_, _, rfl⟩ := mint_ok hx
  exact ⟨setBal_add t d amt a, rfl⟩

theorem allow_wf (t : Token) (h : t.WF) (o s : Addr) (a : Nat) (e : Expiry) :
    (t.setAllow o s a e).WF ∧ (t.delAllow o s).WF := ⟨⟨h.nodup, h.zero, h.sum⟩, ⟨h.nodup, h.zero, h.sum⟩⟩

theorem move_step (t t' : Token) (h : t.WF) (src dst : Addr) (amt : Nat)
    (hx : t.move src dst amt = .ok t') : Step t t' 0 0 ∧ t'.minter = t.minter := by
  obtain ⟨hle, rfl⟩ := move_ok hx
  have hbs := bal_le_supply t h src
  have w1 : WF { (t.setBal src (t.bal src - amt)) with supply := t.supply - amt } :=
    setBal_wf t h src _ _ (by omega)
  have w2 := setBal_wf _ w1 dst ((t.setBal src (t.bal src - amt)).bal dst + amt) t.supply (by
    show t.supply + (t.setBal src (t.bal src - amt)).bal dst =
      t.supply - amt + ((t.setBal src (t.bal src - amt)).bal dst + amt)
    omega)
  exact ⟨⟨⟨w2.nodup, w2.zero, w2.sum⟩, rfl, rfl, rfl⟩, rfl⟩

theorem transfer_step (t t' : Token) (h : t.WF) (s d : Addr) (amt : Nat)
    (hx : t.transfer s d amt = .ok t') : Step t t' 0 0 ∧ t'.minter = t.minter :=
  move_step t t' h s d amt (transfer_ok hx).2

theorem burn_step (t t' : Token) (h : t.WF) (s : Addr) (amt : Nat)
    (hx : t.burn s amt = .ok t') : Step t t' 0 amt ∧ t'.minter = t.minter ∧ amt ≤ t.bal s := by
  obtain ⟨_, hb, hs, rfl⟩ := burn_ok hx
  exact ⟨⟨setBal_wf t h s _ _ (by omega), by show t.supply - amt + amt = t.supply + 0; omega, rfl, rfl⟩, rfl, hb⟩

theorem mint_step (t t' : Token) (h : t.WF) (s d : Addr) (amt : Nat)
    (hx : t.mint s d amt = .ok t') : Step t t' amt 0 ∧ t'.minter = t.minter ∧ t.minter = some s := by
  obtain ⟨_, hm, rfl⟩ := mint_ok hx
  exact ⟨⟨setBal_wf t h d _ _ (by omega), rfl, rfl, rfl⟩, rfl, hm⟩

theorem incAllow_step (t t' : Token) (h : t.WF) (b : Block) (o s : Addr) (amt : Nat) (e : Option Expiry)
    (hx : t.incAllow b o s amt e = .ok t') : Step t t' 0 0 ∧ t'.minter = t.minter := by
  obtain ⟨_, _, rfl⟩ := incAllow_ok hx
  exact ⟨⟨(allow_wf t h _ _ _ _).1, rfl, rfl, rfl⟩, rfl⟩

theorem decAllow_step (t t' : Token) (h : t.WF) (b : Block) (o s : Addr) (amt : Nat) (e : Option Expiry)
    (hx : t.decAllow b o s amt e = .ok t') : Step t t' 0 0 ∧ t'.minter = t.minter := by
  rcases decAllow_ok hx with ⟨_, _, rfl⟩ | rfl
  · exact ⟨⟨(allow_wf t h _ _ _ _).1, rfl, rfl, rfl⟩, rfl⟩
  · exact ⟨⟨(allow_wf t h o s 0 .never).2, rfl, rfl, rfl⟩, rfl⟩

theorem transferFrom_step (t t' : Token) (h : t.WF) (b : Block) (sp o d : Addr) (amt : Nat)
    (hx : t.transferFrom b sp o d amt = .ok t') :
    Step t t' 0 0 ∧ t'.minter = t.minter ∧
    t.allowSet o sp = true ∧ (t.allowExp o sp).isExpired b = false ∧ amt ≤ t.allowAmt o sp ∧
    t'.allowAmt o sp = t.allowAmt o sp - amt := by
  obtain ⟨t1, hd, hmv⟩ := transferFrom_ok hx
  obtain ⟨h1, h2, h3, h4, rfl⟩ := deduct_spec t t1 b o sp amt hd
  obtain ⟨st, hm⟩ := move_step _ t' (allow_wf t h _ _ _ _).1 o d amt hmv
  obtain ⟨_, rfl⟩ := move_ok hmv
  exact ⟨⟨st.wf, st.supply, st.hub, st.legacy⟩, hm, h1, h2, h3, h4⟩

theorem burnFrom_step (t t' : Token) (h : t.WF) (b : Block) (sp o : Addr) (amt : Nat)
    (hx : t.burnFrom b sp o amt = .ok t') :
    Step t t' 0 amt ∧ t'.minter = t.minter ∧
    t.allowSet o sp = true ∧ (t.allowExp o sp).isExpired b = false ∧ amt ≤ t.allowAmt o sp ∧
    t'.allowAmt o sp = t.allowAmt o sp - amt := by
  obtain ⟨t1, hd, hb, hs, rfl⟩ := burnFrom_ok hx
  obtain ⟨h1, h2, h3, h4, rfl⟩ := deduct_spec t t1 b o sp amt hd
  have hb' : amt ≤ t.bal o := hb
  have hs' : amt ≤ t.supply := hs
  exact ⟨⟨setBal_wf _ (allow_wf t h _ _ _ _).1 o _ _ (by show t.supply - amt + t.bal o = t.supply + (t.bal o - amt); omega),
    by show t.supply - amt + amt = t.supply + 0; omega, rfl, rfl⟩, rfl, h1, h2, h3, h4⟩

end Token

/-- the ledger part shared by the bSei and stSei wrappers -/
def Token.core (t : Token) (b : Block) (sender : Addr) : TokMsg → Res Token
  | .transfer to amt => t.transfer sender to amt
  | .burn amt => if sender ≠ t.hub then .error "unauthorized" else t.burn sender amt
  | .send c amt _ => t.transfer sender c amt
  | .mint to amt => t.mint sender to amt
  | .incAllow s amt e => t.incAllow b sender s amt e
  | .decAllow s amt e => t.decAllow b sender s amt e
  | .transferFrom o to amt => t.transferFrom b sender o to amt
  | .burnFrom o amt => t.burnFrom b sender o amt
  | .sendFrom o c amt _ => t.transferFrom b sender o c amt
  | .updateMinter n => t.updateMinter sender n
  | .updateMarketing => .error "unauthorized"

theorem core_burn {t t' : Token} {b : Block} {sender : Addr} {amt : Nat}
    (hx : t.core b sender (.burn amt) = .ok t') : sender = t.hub ∧ t.burn sender amt = .ok t' := by
  have hx' : (if sender ≠ t.hub then .error "unauthorized" else t.burn sender amt) = Except.ok t' := hx
  split at hx'
  · cases hx'
  · exact ⟨Classical.not_not.mp ‹_›, hx'⟩

/-- what the bSei wrapper emits for a message it accepts: the mirror messages for the reward
    contract `r`, then the receive hook or the hub's slashing check -/
def bseiOut (self r hubc thub sender : Addr) (m : TokMsg) : List Msg :=
  let dec (a : Addr) (amt : Nat) : Msg := .wasm self r (.reward (.decrease a amt)) []
  let inc (a : Addr) (amt : Nat) : Msg := .wasm self r (.reward (.increase a amt)) []
  match m with
  | .transfer to amt => [dec sender amt, inc to amt]
  | .burn amt => [dec sender amt]
  | .mint to amt => [inc to amt]
  | .send c amt hook => [dec sender amt, inc c amt, receiveMsg self sender c hubc amt hook]
  | .transferFrom o to amt => [dec o amt, inc to amt]
  | .burnFrom o amt => [dec o amt, .wasm self thub (.hub .checkSlashing) []]
  | .sendFrom o c amt hook => [dec o amt, inc c amt, receiveMsg self sender c hubc amt hook]
  | _ => []

theorem bseiExec_ok {t t' : Token} {b : Block} {self : Addr} {rw : Res Addr} {hubc sender : Addr}
    {m : TokMsg} {ms : List Msg} (hx : bseiExec t b self rw hubc sender m = .ok (t', ms)) :
    t.core b sender m = .ok t' ∧ ∀ r, rw = .ok r → ms = bseiOut self r hubc t.hub sender m := by
  cases m with
  | updateMinter _ | updateMarketing => cases hx
  | burn amt =>
    simp only [bseiExec] at hx
    exc_norm at hx
    exc_split at hx
    rename_i hs _ hb
    exact ⟨(if_neg hs).trans hb, fun _ h => by cases h; rfl⟩
  | transfer _ _ | send _ _ _ | mint _ _ | transferFrom _ _ _ | burnFrom _ _ | sendFrom _ _ _ _ =>
    simp only [bseiExec] at hx
    exc_norm at hx
    exc_split at hx
    exact ⟨‹_›, fun _ h => by cases h; rfl⟩
  | incAllow _ _ _ | decAllow _ _ _ =>
    simp only [bseiExec] at hx
    exc_norm at hx
    exc_split at hx
    exact ⟨‹_›, fun _ _ => rfl⟩

theorem bsei_core (t t' : Token) (b : Block) (self : Addr) (rw : Res Addr) (hubc sender : Addr)
    (m : TokMsg) (ms : List Msg) (hx : bseiExec t b self rw hubc sender m = .ok (t', ms)) :
    t.core b sender m = .ok t' :=
  (bseiExec_ok hx).1

theorem stsei_core (t t' : Token) (b : Block) (self hubc sender : Addr)
    (m : TokMsg) (ms : List Msg) (hx : stseiExec t b self hubc sender m = .ok (t', ms)) :
    t.core b sender m = .ok t' := by
  cases m with
  | updateMarketing => cases hx
  | burn amt =>
    simp only [stseiExec] at hx
    exc_norm at hx
    exc_split at hx
    rename_i hs _ hb
    exact (if_neg hs).trans hb
  | _ =>
    simp only [stseiExec] at hx
    exc_norm at hx
    exc_split at hx
    exact ‹_›

theorem Token.transfer_live (t : Token) (u d : Addr) (amt : Nat) (hpos : 0 < amt) (hbal : amt ≤ t.bal u) :
    ∃ t1, t.transfer u d amt = .ok t1 ∧ amt ≤ t1.bal d := by
  unfold Token.transfer Token.move
  rw [if_neg (by omega), if_neg (by omega)]
  refine ⟨_, rfl, ?_⟩
  show amt ≤ upd _ d (_ + amt) d
  rw [upd_same]
  exact Nat.le_add_left ..

theorem Token.burn_live (t : Token) (wf : t.WF) (a : Addr) (amt : Nat) (hpos : 0 < amt) (hbal : amt ≤ t.bal a) :
    ∃ t2, t.burn a amt = .ok t2 := by
  unfold Token.burn
  have := Token.bal_le_supply t wf a
  rw [if_neg (by omega), if_neg (by omega), if_neg (by omega)]
  exact ⟨_, rfl⟩

end Krp
