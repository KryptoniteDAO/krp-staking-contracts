/-
  Arith.lean — floor-arithmetic lemmas about `mulDec`, `fromRatio` and `mulRatio` (the rounding
  facts behind the peg fee, the slashing split and the dispatcher's swap). Model files never
  import this. The proofs use core lemmas only; Mathlib is imported for the `Nat` instances that
  statements downstream (sums over lists) elaborate with.
-/
import Mathlib.Tactic.Linarith
import Krp.Prim
namespace Krp

theorem lt_div_add_one_mul (a b : Nat) (hb : 0 < b) : a < (a / b + 1) * b :=
  (Nat.div_lt_iff_lt_mul hb).mp (Nat.lt_succ_self _)

theorem mulDec_le (a r : Nat) (h : r ≤ D) : mulDec a r ≤ a :=
  Nat.div_le_of_le_mul (Nat.mul_comm a D ▸ Nat.mul_le_mul_left a h)

theorem mulDec_zero_left (r : Nat) : mulDec 0 r = 0 := by
  unfold mulDec; rw [Nat.zero_mul, Nat.zero_div]

theorem mulDec_mono_left (a b r : Nat) (h : a ≤ b) : mulDec a r ≤ mulDec b r := by
  unfold mulDec; exact Nat.div_le_div_right (Nat.mul_le_mul_right r h)

theorem mulDec_add (a b r : Nat) :
    mulDec a r + mulDec b r ≤ mulDec (a + b) r ∧ mulDec (a + b) r ≤ mulDec a r + mulDec b r + 1 := by
  unfold mulDec
  rw [Nat.add_mul, Nat.add_div D_pos]
  split <;> omega

theorem fromRatio_le (a b : Nat) (h : a ≤ b) : fromRatio a b ≤ D :=
  Nat.div_le_of_le_mul (Nat.mul_le_mul_right D h)

/-- two roundings down in a row: `x ≤ a·w/D` and `w ≤ c·D/t` give `x ≤ a·c/t` -/
theorem le_of_two_floors (x a w t c : Nat) (h1 : x * D ≤ a * w) (h2 : w * t ≤ c * D) :
    x * t ≤ a * c := by
  refine Nat.le_of_mul_le_mul_right ?_ D_pos
  calc x * t * D = x * D * t := Nat.mul_right_comm ..
    _ ≤ a * w * t := Nat.mul_le_mul_right t h1
    _ = a * (w * t) := Nat.mul_assoc ..
    _ ≤ a * (c * D) := Nat.mul_le_mul_left a h2
    _ = a * c * D := (Nat.mul_assoc ..).symm

/-- slashing split, bSei side: never above the exact pro-rata share … -/
theorem split_lower (Δ Bb T : Nat) : mulDec Δ (fromRatio Bb T) * T ≤ Δ * Bb :=
  le_of_two_floors _ Δ _ T Bb (Nat.div_mul_le_self ..) (Nat.div_mul_le_self ..)

/-- … and short of it by less than one unit plus `Δ/10^18` (multiplied through by `D·T`) … -/
theorem split_upper_scaled (Δ Bb T : Nat) (hT : 0 < T) :
    Δ * Bb * D < (mulDec Δ (fromRatio Bb T) + 1) * D * T + Δ * T :=
  calc Δ * Bb * D = Δ * (Bb * D) := Nat.mul_assoc ..
    _ ≤ Δ * ((fromRatio Bb T + 1) * T) :=
        Nat.mul_le_mul_left Δ (Nat.le_of_lt (lt_div_add_one_mul _ _ hT))
    _ = Δ * fromRatio Bb T * T + Δ * T := by rw [Nat.add_one_mul, Nat.mul_add, Nat.mul_assoc]
    _ < (mulDec Δ (fromRatio Bb T) + 1) * D * T + Δ * T :=
        Nat.add_lt_add_right (Nat.mul_lt_mul_of_pos_right (lt_div_add_one_mul _ _ D_pos) hT) _

/-- … that is, by less than two base units inside the envelope Δ ≤ 10^18 -/
theorem split_upper (Δ Bb T : Nat) (hT : 0 < T) (hΔ : Δ ≤ D) :
    Δ * Bb < (mulDec Δ (fromRatio Bb T) + 2) * T := by
  refine Nat.lt_of_mul_lt_mul_right (a := D) ?_
  calc Δ * Bb * D < (mulDec Δ (fromRatio Bb T) + 1) * D * T + Δ * T := split_upper_scaled Δ Bb T hT
    _ ≤ (mulDec Δ (fromRatio Bb T) + 1) * D * T + D * T :=
        Nat.add_le_add_left (Nat.mul_le_mul_right T hΔ) _
    _ = (mulDec Δ (fromRatio Bb T) + 2) * T * D := by
        rw [← Nat.add_mul, ← Nat.add_one_mul, Nat.mul_right_comm]

/-- so the `checked_sub` that yields the stSei share cannot fail -/
theorem split_le (Δ Bb T : Nat) (hle : Bb ≤ T) : mulDec Δ (fromRatio Bb T) ≤ Δ :=
  mulDec_le Δ _ (fromRatio_le Bb T hle)

/-- convert bSei→stSei with a fee `a − w` that respects the cap `fee·B ≤ (C−B)(C−a)`: the pool ends
    at most two base units above its claims -/
theorem convert_peg (B C a w : Nat) (hw : w ≤ a) (ha : a ≤ C) (hBC : B ≤ C) (hwD : w ≤ D) (hC : 0 < C)
    (hcap : (a - w) * B ≤ (C - B) * (C - a)) :
    B - mulDec w (B * D / C) ≤ C - a + 2 := by
  have up : w * B < (mulDec w (B * D / C) + 2) * C := split_upper w B C hC hwD
  -- the cap amounts to `(B − (C − a))·C ≤ w·B`, so that `B − (C − a) < mulDec … + 2` by `up`
  have key : (B - (C - a)) * C ≤ w * B := by
    by_cases hj : B ≤ C - a
    · rw [Nat.sub_eq_zero_of_le hj, Nat.zero_mul]; exact Nat.zero_le _
    · -- with `a = w + f`, `C = g + a`, `B = g + j` the cap is `f·(g + j) ≤ (a − j)·g`, the claim
      -- `j·(g + a) ≤ w·(g + j)`, and both say `f·j + j·g ≤ w·g`
      obtain ⟨f, rfl⟩ := Nat.le.dest hw
      obtain ⟨g, rfl⟩ : ∃ g, C = g + (w + f) := ⟨C - (w + f), (Nat.sub_add_cancel ha).symm⟩
      rw [Nat.add_sub_cancel] at hj hcap ⊢
      obtain ⟨j, rfl⟩ := Nat.le.dest (Nat.le_of_not_le hj)
      rw [Nat.add_sub_cancel_left, Nat.add_sub_add_left, Nat.sub_mul, Nat.mul_add, Nat.add_mul] at hcap
      rw [Nat.add_sub_cancel_left, Nat.mul_add, Nat.mul_add, Nat.mul_add, Nat.mul_comm j w,
        Nat.mul_comm j f]
      have : j * g ≤ (w + f) * g := Nat.mul_le_mul_right g (by omega)
      rw [Nat.add_mul] at this
      omega
  have := Nat.lt_of_mul_lt_mul_right (Nat.lt_of_le_of_lt key up)
  omega

/-- after undelegating `R` requests at the floored rate of a pool with `B ≤ Sa + R`, the backing left
    exceeds the remaining claims `Sa` by less than two base units: no fee, `a = w = R` -/
theorem undeleg_peg (B Sa R : Nat) (hB : B ≤ Sa + R) (hR : R ≤ D) (hC : 0 < Sa + R) :
    B - mulDec R (B * D / (Sa + R)) ≤ Sa + 2 := by
  have := convert_peg B (Sa + R) R R (Nat.le_refl R) (Nat.le_add_left R Sa) hB hR hC
    (by rw [Nat.sub_self, Nat.zero_mul]; exact Nat.zero_le _)
  rw [Nat.add_sub_cancel] at this
  exact this

/-- `D * D / r` is `decInv r`, the inverse price of the dispatcher's swap -/
theorem buy_le_available (b x r : Nat) (hx : x ≤ mulDec b (D * D / r)) : mulDec x r ≤ b := by
  have h1 : x * D ≤ b * (D * D / r) := Nat.le_trans (Nat.mul_le_mul_right D hx) (Nat.div_mul_le_self ..)
  exact Nat.div_le_of_le_mul (Nat.mul_comm b D ▸ le_of_two_floors x b _ r D h1 (Nat.div_mul_le_self ..))

theorem buy_back_le (x r : Nat) : mulDec (mulDec x r) (D * D / r) ≤ x :=
  Nat.div_le_of_le_mul (Nat.mul_comm x D ▸ le_of_two_floors (mulDec x r) x r _ D
    (Nat.div_mul_le_self ..) (Nat.mul_comm r _ ▸ Nat.div_mul_le_self ..))

theorem mulRatio_le (t a b : Nat) : mulRatio t a (a + b) ≤ t :=
  Nat.div_le_of_le_mul (Nat.mul_comm t _ ▸ Nat.mul_le_mul_left t (Nat.le_add_right a b))

end Krp
