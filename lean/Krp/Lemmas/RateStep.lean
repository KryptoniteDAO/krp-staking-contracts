/-
  RateStep.lean — one message of a transaction: the invariant `RInv` (Lemmas/RateInv) is carried from
  the queue `m :: rest` in state `s` to the queue `subs ++ rest` in the state after handling `m`.
-/
import Krp.Lemmas.RateHub
namespace Krp
open HubSt

/-- with a message that is not one of the hub's staking messages at the head of the queue, all the
    hub's pending staking messages have run: the books are within the delegations -/
theorem BookInv.head_nonstake {s : Sys} {m : Msg} {rest : List Msg} (inv : BookInv s (m :: rest))
    (hm : isStake m = false) : s.hub.bBond + s.hub.sBond ≤ totalDelegated s := by
  obtain ⟨pre, rest', hq, hpre, _, hle⟩ := inv.split
  cases pre with
  | nil => simpa [undelSum, delSum] using hle
  | cons p pre' =>
    simp only [List.cons_append, List.cons.injEq] at hq
    have := hpre p (List.mem_cons_self ..)
    rw [← hq.1, hm] at this; cases this

theorem static_step (s s' : Sys) (m : Msg) (subs : List Msg) (hx : s.handle m = .ok (s', subs))
    (btok : s.hub.bsei = some bseiA) (stok : s.hub.stsei = some stseiA)
    (bwf : s.bsei.WF) (swf : s.stsei.WF) (bhub : s.bsei.hub = hubA) (shub : s.stsei.hub = hubA) :
    s'.hub.bsei = some bseiA ∧ s'.hub.stsei = some stseiA ∧ s'.bsei.WF ∧ s'.stsei.WF ∧
    s'.bsei.hub = hubA ∧ s'.stsei.hub = hubA := by
  have tk := handle_tokens s s' m subs hx
  refine ⟨tk.bsei _ btok, tk.stsei _ stok, ?_⟩
  cases handle_touch s s' m subs hx with
  | bsei s1 sender funds tm _ _ hx' h t r d g =>
    have st := C18_bsei_step _ _ _ _ _ _ _ _ _ bwf hx'
    rw [t]; exact ⟨st.2.1, swf, st.2.2.2.trans bhub, shub⟩
  | stsei blk sender funds tm _ hx' h b r d g =>
    have st := C18_stsei_step _ _ _ _ _ _ _ _ swf hx'
    rw [b]; exact ⟨bwf, st.2.1, bhub, st.2.2.1.trans shub⟩
  | none h _ _ _ => rw [h.bsei, h.stsei]; exact ⟨bwf, swf, bhub, shub⟩
  | hub _ _ _ _ _ _ _ _ _ b t | reward _ _ _ _ _ _ _ _ _ _ b t | disp _ _ _ _ _ _ _ _ _ b t
  | reg _ _ _ _ _ _ _ _ _ _ b t => rw [b, t]; exact ⟨bwf, swf, bhub, shub⟩

theorem TR.mint_exec {r B S R a M U : Nat} (h : TR r B S R (a + M) U) : TR r B (S + a) R M U := by
  unfold TR at *
  rw [show S + a + M + R = S + (a + M) + R by omega]; exact h

theorem TR.burn_exec {r B S' R a M U : Nat} (h : TR r B (S' + a) R M (a + U)) : TR r B S' R M U := by
  unfold TR at *
  have e1 : r * (S' + a + M + R) = r * (S' + M + R) + r * a := by
    rw [show S' + a + M + R = (S' + M + R) + a by omega, Nat.mul_add]
  have e2 : r * (a + U) = r * a + r * U := Nat.mul_add _ _ _
  rw [e1, e2] at h
  omega

theorem TR.supply_le {r B S S' R M U : Nat} (h : TR r B S R M U) (hS : S' ≤ S) : TR r B S' R M U := by
  unfold TR at *
  have : r * (S' + M + R) ≤ r * (S + M + R) := Nat.mul_le_mul_left _ (by omega)
  omega

/-- only the hub emits Mints, and only its own Burns count: what any other message emits carries no flow -/
theorem handle_noflow {s s' : Sys} {m : Msg} {subs : List Msg} (hx : s.handle m = .ok (s', subs))
    (hm : ∀ a c d, m ≠ .wasm a hubA c d) : NoFlow subs := by
  cases m with
  | wasm a b c d =>
    have hb : b ≠ hubA := fun h => hm a c d (by rw [h])
    exact NoFlow.of_other b hb ((handle_sentBy s s' _ subs hx).1 a b c d rfl)
      (handle_noMint s s' _ subs (fun _ _ _ he => hb (Msg.wasm.inj he).2.1) hx)
  | _ => rw [handle_chain_nil hx (fun _ _ _ _ h => nomatch h)]; exact NoFlow.nil

/-- a token message executed by token `tok`, whose hub is `hubA`: the true ratio moves along with the
    supply, a Mint or the hub's Burn leaving the queue as it reaches the ledger -/
theorem TR.tok_exec {t t' : Token} {b : Block} {sender tok : Addr} {tm : TokMsg} {funds : List (Denom × Nat)}
    {rest : List Msg} {r B R : Nat} (wf : t.WF) (hhub : t.hub = hubA) (hc : t.core b sender tm = .ok t')
    (tr : TR r B t.supply R (mintsTo tok (.wasm sender tok (.tok tm) funds :: rest))
      (burnsBy tok (.wasm sender tok (.tok tm) funds :: rest))) :
    TR r B t'.supply R (mintsTo tok rest) (burnsBy tok rest) := by
  have cs := (C18_core_step _ _ _ _ _ wf hc).2.2.2
  have quiet : quietTok tm = true → t'.supply = t.supply → TR r B t'.supply R (mintsTo tok rest) (burnsBy tok rest) := by
    intro hq hs
    have f := flows_cons tok (.wasm sender tok (.tok tm) funds) rest (fun _ _ _ he => by cases he; exact hq)
    rw [f.1, f.2] at tr
    rw [hs]; exact tr
  cases tm with
  | mint rcp a =>
    simp only [mintsTo, burnsBy, if_pos, Nat.zero_add] at tr
    rw [cs.2]; exact tr.mint_exec
  | burn a =>
    have hsender : sender = hubA := cs.1.trans hhub
    simp only [mintsTo, burnsBy, hsender, and_self, if_pos, Nat.zero_add] at tr
    rw [← cs.2.1] at tr; exact tr.burn_exec
  | burnFrom o a =>
    have f := flows_cons tok (.wasm sender tok (.tok (.burnFrom o a)) funds) rest (fun _ _ _ he => by cases he; rfl)
    rw [f.1, f.2] at tr
    exact tr.supply_le (by have := cs.1; omega)
  | transferFrom o rcp a | sendFrom o c a hk => exact quiet rfl cs.1
  | transfer rcp a | send c a hk | incAllow sp a e | decAllow sp a e | updateMinter n | updateMarketing =>
    exact quiet rfl cs

/-- a trigger is only ever handled in the fresh phase -/
theorem RInv.fresh_of_trg {s0 s : Sys} {m : Msg} {rest : List Msg} (inv : RInv s0 s (m :: rest))
    (htr : Trg m = true) : Fresh s0 s (m :: rest) := by
  rcases inv.phase with f | nt
  · exact f
  · have := nt _ (List.mem_cons_self ..)
    rw [htr] at this; cases this

theorem tr_step (s0 s s' : Sys) (m : Msg) (rest subs : List Msg) (inv : RInv s0 s (m :: rest))
    (hb0 : s0.hub.bBond + s0.hub.sBond ≠ 0)
    (hx : s.handle m = .ok (s', subs)) :
    TR (rb0 s0) s'.hub.bBond s'.bsei.supply s'.hub.reqB (mintsTo bseiA (subs ++ rest)) (burnsBy bseiA (subs ++ rest)) ∧
    TR (rs0 s0) s'.hub.sBond s'.stsei.supply s'.hub.reqS (mintsTo stseiA (subs ++ rest)) (burnsBy stseiA (subs ++ rest)) := by
  have trb := inv.trb
  have trs := inv.trs
  -- a message that reaches neither the hub nor a token: its place in the queue carries no flow, and
  -- neither does what it emits
  have idle : s'.hub = s.hub → s'.bsei = s.bsei → s'.stsei = s.stsei → NoFlow subs →
      (∀ t a tm d, (t = bseiA ∨ t = stseiA) → m ≠ .wasm a t (.tok tm) d) →
      TR (rb0 s0) s'.hub.bBond s'.bsei.supply s'.hub.reqB (mintsTo bseiA (subs ++ rest)) (burnsBy bseiA (subs ++ rest)) ∧
      TR (rs0 s0) s'.hub.sBond s'.stsei.supply s'.hub.reqS (mintsTo stseiA (subs ++ rest)) (burnsBy stseiA (subs ++ rest)) := by
    intro h b t nf hm
    have f1 := flows_cons bseiA m rest (fun a tm d he => absurd he (hm bseiA a tm d (Or.inl rfl)))
    have f2 := flows_cons stseiA m rest (fun a tm d he => absurd he (hm stseiA a tm d (Or.inr rfl)))
    rw [f1.1, f1.2] at trb
    rw [f2.1, f2.2] at trs
    rw [h, b, t]
    exact nf.carry trb trs
  cases m with
  | wasm sender target call funds =>
    have nf : target ≠ hubA → NoFlow subs := fun hb => handle_noflow hx (fun _ _ _ he => hb (Msg.wasm.inj he).2.1)
    obtain ⟨s1, hmv, r⟩ := handle_wasm hx
    obtain ⟨_, rfl⟩ := moveFunds_chain hmv
    cases r with
    | reward _ _ _ hs | disp _ _ _ hs | reg _ _ _ hs | swap _ _ _ _ _ _ _ hs _ =>
      subst hs
      exact idle rfl rfl rfl (nf (by decide)) (fun _ _ _ _ _ he => nomatch he)
    | sink c hs _ =>
      subst hs
      refine idle rfl rfl rfl (nf (by decide)) (fun t _ _ _ ht he => ?_)
      obtain rfl : sinkA = t := (Msg.wasm.inj he).2.1
      exact absurd ht (by decide)
    | bsei tm t' hx' hs =>
      subst hs
      have other := flows_cons stseiA (.wasm sender bseiA (.tok tm) funds) rest (fun _ _ _ he => nomatch he)
      rw [other.1, other.2] at trs
      exact (nf (by decide)).carry (trb.tok_exec inv.bwf inv.bhub (bsei_core _ _ _ _ _ _ _ _ _ hx')) trs
    | stsei tm t' hx' hs =>
      subst hs
      have other := flows_cons bseiA (.wasm sender stseiA (.tok tm) funds) rest (fun _ _ _ he => nomatch he)
      rw [other.1, other.2] at trb
      exact (nf (by decide)).carry trb (trs.tok_exec inv.swf inv.shub (stsei_core _ _ _ _ _ _ _ _ hx'))
    | hub hm h' hx' hs =>
      subst hs
      have hd1 := flows_cons bseiA (.wasm sender hubA (.hub hm) funds) rest (fun _ _ _ he => nomatch he)
      have hd2 := flows_cons stseiA (.wasm sender hubA (.hub hm) funds) rest (fun _ _ _ he => nomatch he)
      rw [hd1.1, hd1.2] at trb
      rw [hd2.1, hd2.2] at trs
      by_cases hst : Still (.wasm sender hubA (.hub hm) funds) = true
      · have hs := handle_still s _ _ subs hst hx
        rw [hs.1.bBond, hs.1.sBond, hs.1.reqB, hs.1.reqS]
        exact (NoFlow.of_still hs.2).carry trb trs
      · have hst' : Still (.wasm sender hubA (.hub hm) funds) = false := by simpa using hst
        have ns : s.hub.bBond + s.hub.sBond ≤ ((s.hubEnv.delegations).map (·.2)).sum := by
          rw [delegations_sum s inv.book.chain]; exact inv.book.head_nonstake rfl
        rw [mintsTo_append, burnsBy_append, mintsTo_append, burnsBy_append]
        refine hub_flow s.hub h' _ sender funds hm subs hx' hst' rfl inv.btok inv.stok _ _
          (supplyOf_bsei s) (supplyOf_stsei s) ns _ _ _ _ _ _ trb trs ?_
        intro htr
        -- a trigger runs in the fresh phase only: nothing in flight, the rates are those of the pools
        obtain ⟨sp, nf, _⟩ := (inv.fresh_of_trg htr).head_not_still hst'
        obtain ⟨n1, n2, n3, n4⟩ := nf.tail
        have hz : s.hub.bBond + s.hub.sBond ≠ 0 := by rw [sp.bBond, sp.sBond]; exact hb0
        refine ⟨n1, n3, n2, n4, ?_, ?_, ?_, hz⟩
        · unfold rb0; rw [sp.bBond, sp.bSupply, sp.reqB]
        · unfold rs0; rw [sp.sBond, sp.sSupply, sp.reqS]
        · intro hnil
          rw [show s.hubEnv.delegations = [] from hnil] at ns
          exact hz (Nat.le_zero.mp ns)
  | _ =>
    have h := handle_chain_same hx (fun _ _ _ _ he => nomatch he)
    exact idle h.hub h.bsei h.stsei (handle_noflow hx (fun _ _ _ he => nomatch he)) (fun _ _ _ _ _ he => nomatch he)

/-- what bSei emits on a Send / SendFrom to the hub: the balance mirror (still), then the hook -/
theorem bsei_send_hub {t t' : Token} {b : Block} {rw : Res Addr} {sender : Addr} {tm : TokMsg} {ms : List Msg}
    (hm : sendsToHub hubA tm = true) (hx : bseiExec t b bseiA rw hubA sender tm = .ok (t', ms)) :
    ∃ pre u a k, ms = pre ++ [Msg.wasm bseiA hubA (.hub (.receive u a k)) []] ∧ AllStill pre := by
  cases tm with
  | send c amt hook | sendFrom o c amt hook =>
    obtain rfl : c = hubA := eq_of_beq hm
    simp only [bseiExec] at hx; exc_norm at hx; exc_split at hx
    simp only [receiveMsg, if_true]
    exact ⟨[_, _], _, _, _, rfl, AllStill.cons rfl (AllStill.cons rfl AllStill.nil)⟩
  | _ => cases hm

theorem stsei_send_hub {t t' : Token} {b : Block} {sender : Addr} {tm : TokMsg} {ms : List Msg}
    (hm : sendsToHub hubA tm = true) (hx : stseiExec t b stseiA hubA sender tm = .ok (t', ms)) :
    ∃ pre u a k, ms = pre ++ [Msg.wasm stseiA hubA (.hub (.receive u a k)) []] ∧ AllStill pre := by
  cases tm with
  | send c amt hook | sendFrom o c amt hook =>
    obtain rfl : c = hubA := eq_of_beq hm
    simp only [stseiExec] at hx; exc_norm at hx; exc_split at hx
    simp only [receiveMsg, if_true]
    exact ⟨[], _, _, _, rfl, AllStill.nil⟩
  | _ => cases hm

theorem send_supply {t t' : Token} {b : Block} {sender : Addr} {tm : TokMsg}
    (hm : sendsToHub hubA tm = true) (hc : t.core b sender tm = .ok t') : t'.supply = t.supply := by
  cases tm with
  | send c amt hook => exact Token.transfer_supply _ _ _ _ _ hc
  | sendFrom o c amt hook => exact Token.transferFrom_supply _ _ _ _ _ _ _ hc
  | _ => cases hm

theorem handle_send_hub {s s' : Sys} {sender tokA : Addr} {tm : TokMsg} {funds : List (Denom × Nat)}
    {subs : List Msg} (htok : tokA = bseiA ∨ tokA = stseiA) (hsend : sendsToHub hubA tm = true)
    (hx : s.handle (.wasm sender tokA (.tok tm) funds) = .ok (s', subs)) :
    SamePools s s' ∧
    ∃ pre u a k, subs = pre ++ [Msg.wasm tokA hubA (.hub (.receive u a k)) []] ∧ AllStill pre := by
  refine ⟨handle_tok_pools hx (fun _ _ _ hc => send_supply hsend hc), ?_⟩
  rcases htok with rfl | rfl
  · obtain ⟨_, _, _, hc, _, hr, _⟩ := handle_bsei hx
    cases hc
    exact bsei_send_hub hsend hr
  · obtain ⟨_, _, _, hc, _, hr, _⟩ := handle_stsei hx
    cases hc
    exact stsei_send_hub hsend hr

theorem phase_step (s0 s s' : Sys) (m : Msg) (rest subs : List Msg) (inv : RInv s0 s (m :: rest))
    (hx : s.handle m = .ok (s', subs)) : Fresh s0 s' (subs ++ rest) ∨ NoTrg (subs ++ rest) := by
  by_cases hst : Still m = true
  · have hs := handle_still s s' m subs hst hx
    rcases inv.phase with f | nt
    · exact Or.inl (f.next_still hs.1 hs.2)
    · exact Or.inr (NoTrg.append (NoTrg.of_still hs.2) (List.forall_mem_cons.mp nt).2)
  · have hst' : Still m = false := by simpa using hst
    -- the rest of the queue holds no trigger, in either phase
    have hrest : NoTrg rest := by
      rcases inv.phase with f | nt
      · exact (f.head_not_still hst').2.2
      · exact (List.forall_mem_cons.mp nt).2
    by_cases htr : Trg m = true
    · -- a trigger at the head: the queue is fresh
      obtain ⟨sp, nf, _⟩ := (inv.fresh_of_trg htr).head_not_still hst'
      -- only a token taking a Send to the hub emits a trigger, the hook, behind still messages
      have send : ∀ {a tokA tm d}, m = .wasm a tokA (.tok tm) d → (tokA = bseiA ∨ tokA = stseiA) →
          Fresh s0 s' (subs ++ rest) := by
        intro a tokA tm d hm htok
        subst hm
        have hsend : sendsToHub hubA tm = true := by cases tm <;> exact htr
        obtain ⟨p, pre, u, n, k, hms, hpre⟩ := handle_send_hub htok hsend hx
        refine ⟨sp.of_pools p, NoFlow.append (handle_noflow hx (fun _ _ _ he => by cases he; rcases htok with h | h <;> exact absurd h (by decide))) nf.tail,
          pre, .wasm tokA hubA (.hub (.receive u n k)) [] :: rest, by rw [hms, List.append_assoc]; rfl, hpre, hrest⟩
      cases m with
      | wasm a b c d =>
        obtain ⟨s1, _, r⟩ := handle_wasm hx
        cases r with
        | hub hm h' hr _ => exact Or.inr (NoTrg.append (hubExec_noTrg _ _ _ _ _ _ _ hr) hrest)
        | bsei tm t' _ _ => exact Or.inl (send rfl (Or.inl rfl))
        | stsei tm t' _ _ => exact Or.inl (send rfl (Or.inr rfl))
        | sink c _ hms => subst hms; exact Or.inr hrest
        | reward | disp | reg | swap => cases htr
      | _ => cases htr
    · have htr' : Trg m = false := by simpa using htr
      exact Or.inr (NoTrg.append (handle_noTrg s s' m subs htr' hx) hrest)

theorem RInv.step (s0 s s' : Sys) (m : Msg) (rest subs : List Msg) (hb0 : s0.hub.bBond + s0.hub.sBond ≠ 0)
    (inv : RInv s0 s (m :: rest)) (hx : s.handle m = .ok (s', subs)) : RInv s0 s' (subs ++ rest) := by
  obtain ⟨a1, a2, a3, a4, a5, a6⟩ := static_step s s' m subs hx inv.btok inv.stok inv.bwf inv.swf inv.bhub inv.shub
  have tr := tr_step s0 s s' m rest subs inv hb0 hx
  exact ⟨BookInv.step s s' m rest subs inv.book hx, a1, a2, a3, a4, a5, a6, tr.1, tr.2, phase_step s0 s s' m rest subs inv hx⟩

end Krp
