/-
  RateInv.lean — the invariant `RInv` carried from message to message through one transaction for
  the composed C04 theorem: the exchange rates the transaction started from (`rb0`, `rs0`) stay true
  ratios of the effective pools (`TR`, Lemmas/RateFlow).

  Two phases. `Fresh`: nothing that prices has run yet (pools, requests and supplies are those of
  the start, nothing is in flight, and at most one trigger — `Trg`, Lemmas/Unsent — is in the queue,
  behind still messages only). This is the only phase in which a minting handler (Bond,
  BondForStSei, the cw20 hook) can run, so it prices at exactly the rates of the start. Afterwards
  (`NoTrg q`) no trigger is left in the queue and none can be emitted, so only handlers that mint
  nothing run.
-/
import Krp.Lemmas.RateFlow
import Krp.Props.C02
namespace Krp
open HubSt

/-- the rates of the start, as ratios of the start's pools -/
def rb0 (s : Sys) : Nat := rateOf s.hub.bBond s.bsei.supply s.hub.reqB
def rs0 (s : Sys) : Nat := rateOf s.hub.sBond s.stsei.supply s.hub.reqS

structure SamePricing (s0 s : Sys) : Prop where
  bBond : s.hub.bBond = s0.hub.bBond
  sBond : s.hub.sBond = s0.hub.sBond
  reqB : s.hub.reqB = s0.hub.reqB
  reqS : s.hub.reqS = s0.hub.reqS
  bSupply : s.bsei.supply = s0.bsei.supply
  sSupply : s.stsei.supply = s0.stsei.supply

theorem supplyOf_bsei (s : Sys) : s.hubEnv.supplyOf bseiA = .ok s.bsei.supply := by
  show s.supplyOf bseiA = _
  unfold Sys.supplyOf; rw [if_pos rfl]

theorem supplyOf_stsei (s : Sys) : s.hubEnv.supplyOf stseiA = .ok s.stsei.supply := by
  show s.supplyOf stseiA = _
  unfold Sys.supplyOf; rw [if_neg (by decide), if_pos rfl]

theorem SamePricing.refl (s : Sys) : SamePricing s s := ⟨rfl, rfl, rfl, rfl, rfl, rfl⟩

theorem SamePricing.of_pools {s0 s s' : Sys} (p : SamePricing s0 s) (q : SamePools s s') : SamePricing s0 s' :=
  ⟨q.bBond.trans p.bBond, q.sBond.trans p.sBond, q.reqB.trans p.reqB, q.reqS.trans p.reqS,
   q.bSupply.trans p.bSupply, q.sSupply.trans p.sSupply⟩

def NoFlow (q : List Msg) : Prop :=
  mintsTo bseiA q = 0 ∧ mintsTo stseiA q = 0 ∧ burnsBy bseiA q = 0 ∧ burnsBy stseiA q = 0

theorem NoFlow.nil : NoFlow [] := ⟨rfl, rfl, rfl, rfl⟩

theorem NoFlow.append {x y : List Msg} (a : NoFlow x) (b : NoFlow y) : NoFlow (x ++ y) := by
  obtain ⟨a1, a2, a3, a4⟩ := a
  obtain ⟨b1, b2, b3, b4⟩ := b
  refine ⟨?_, ?_, ?_, ?_⟩ <;> simp only [mintsTo_append, burnsBy_append, a1, a2, a3, a4, b1, b2, b3, b4]

theorem NoFlow.of_still {q : List Msg} (h : AllStill q) : NoFlow q :=
  ⟨(flows_of_still _ q h).1, (flows_of_still _ q h).1, (flows_of_still _ q h).2, (flows_of_still _ q h).2⟩

theorem NoFlow.tail {m : Msg} {q : List Msg} (h : NoFlow (m :: q)) : NoFlow q :=
  ⟨Nat.eq_zero_of_add_eq_zero_left h.1, Nat.eq_zero_of_add_eq_zero_left h.2.1,
   Nat.eq_zero_of_add_eq_zero_left h.2.2.1, Nat.eq_zero_of_add_eq_zero_left h.2.2.2⟩

theorem NoFlow.of_other {q : List Msg} (a : Addr) (ha : a ≠ hubA) (h1 : SentBy a q) (h2 : NoMint q) : NoFlow q :=
  ⟨mintsTo_of_noMint _ q h2, mintsTo_of_noMint _ q h2, burnsBy_of_sentBy _ a q h1 ha, burnsBy_of_sentBy _ a q h1 ha⟩

/-- messages that carry no flow, put in front of the queue, leave both true ratios as they are -/
theorem NoFlow.carry {subs rest : List Msg} (nf : NoFlow subs) {rb rs B B' S S' R R' : Nat}
    (trb : TR rb B S R (mintsTo bseiA rest) (burnsBy bseiA rest))
    (trs : TR rs B' S' R' (mintsTo stseiA rest) (burnsBy stseiA rest)) :
    TR rb B S R (mintsTo bseiA (subs ++ rest)) (burnsBy bseiA (subs ++ rest)) ∧
    TR rs B' S' R' (mintsTo stseiA (subs ++ rest)) (burnsBy stseiA (subs ++ rest)) := by
  obtain ⟨n1, n2, n3, n4⟩ := nf
  rw [mintsTo_append, burnsBy_append, mintsTo_append, burnsBy_append, n1, n2, n3, n4]
  simp only [Nat.zero_add]
  exact ⟨trb, trs⟩

def Fresh (s0 s : Sys) (q : List Msg) : Prop :=
  SamePricing s0 s ∧ NoFlow q ∧ ∃ Qs R, q = Qs ++ R ∧ AllStill Qs ∧ NoTrg (R.drop 1)

theorem still_not_trg (m : Msg) (h : Still m = true) : Trg m = false := by
  cases m with
  | wasm a b c d =>
    cases c with
    | hub hm => cases hm <;> first | rfl | cases h
    | tok tm =>
      cases tm with
      | send c n k | sendFrom o c n k =>
        show (c == hubA) = false
        cases hc : (c == hubA) with
        | false => rfl
        | true => have : (!(c == hubA)) = true := h; rw [hc] at this; cases this
      | _ => rfl
    | _ => rfl
  | _ => rfl

theorem NoTrg.of_still {q : List Msg} (h : AllStill q) : NoTrg q :=
  fun m hm => still_not_trg m (h m hm)

theorem Fresh.next_still {s0 s s' : Sys} {m : Msg} {rest subs : List Msg} (f : Fresh s0 s (m :: rest))
    (p : SamePools s s') (hs : AllStill subs) : Fresh s0 s' (subs ++ rest) := by
  obtain ⟨sp, nf, Qs, R, hq, hQ, hR⟩ := f
  refine ⟨sp.of_pools p, NoFlow.append (NoFlow.of_still hs) nf.tail, ?_⟩
  cases Qs with
  | nil =>
    cases (hq : m :: rest = R)
    exact ⟨subs, rest, rfl, hs, fun x hx => hR x (List.mem_of_mem_drop hx)⟩
  | cons a Qs' =>
    cases (hq : m :: rest = a :: (Qs' ++ R))
    exact ⟨subs ++ Qs', R, (List.append_assoc ..).symm, AllStill.append hs (List.forall_mem_cons.mp hQ).2, hR⟩

theorem Fresh.head_not_still {s0 s : Sys} {m : Msg} {rest : List Msg} (f : Fresh s0 s (m :: rest))
    (hm : Still m = false) : SamePricing s0 s ∧ NoFlow (m :: rest) ∧ NoTrg rest := by
  obtain ⟨sp, nf, Qs, R, hq, hQ, hR⟩ := f
  refine ⟨sp, nf, ?_⟩
  cases Qs with
  | nil =>
    cases (hq : m :: rest = R)
    exact hR
  | cons a Qs' =>
    cases (hq : m :: rest = a :: (Qs' ++ R))
    have := hQ m (List.mem_cons_self ..)
    rw [hm] at this; cases this

structure RInv (s0 s : Sys) (q : List Msg) : Prop where
  book : BookInv s q
  btok : s.hub.bsei = some bseiA
  stok : s.hub.stsei = some stseiA
  bwf : s.bsei.WF
  swf : s.stsei.WF
  bhub : s.bsei.hub = hubA
  shub : s.stsei.hub = hubA
  trb : TR (rb0 s0) s.hub.bBond s.bsei.supply s.hub.reqB (mintsTo bseiA q) (burnsBy bseiA q)
  trs : TR (rs0 s0) s.hub.sBond s.stsei.supply s.hub.reqS (mintsTo stseiA q) (burnsBy stseiA q)
  phase : Fresh s0 s q ∨ NoTrg q

theorem RInv.final {s0 s : Sys} (r : RInv s0 s []) :
    rb0 s0 * (s.bsei.supply + s.hub.reqB) ≤ s.hub.bBond * D ∧
    rs0 s0 * (s.stsei.supply + s.hub.reqS) ≤ s.hub.sBond * D := by
  have tb := r.trb
  have ts := r.trs
  unfold TR at tb ts
  simp only [mintsTo, burnsBy, Nat.add_zero, Nat.mul_zero] at tb ts
  exact ⟨tb, ts⟩

theorem TR.mono {r B B' S R m u : Nat} (h : TR r B S R m u) (hB : B ≤ B') : TR r B' S R m u := by
  unfold TR at *
  have : B * D ≤ B' * D := Nat.mul_le_mul_right _ hB
  omega

theorem TR.le_rate {r B S R : Nat} (h : TR r B S R 0 0) (hB : 0 < B) (hC : 0 < S + R) : r ≤ rateOf B S R := by
  unfold TR at h
  exact le_rateOf r B S R hB hC (by simpa using h)

theorem stake_plain (m : Msg) (h : isStake m = true) : ∀ a b c d, m ≠ .wasm a b c d := by
  intro a b c d he; subst he; simp [isStake] at h

theorem flows_of_stake (t : Addr) (q : List Msg) (h : ∀ m ∈ q, isStake m = true) :
    mintsTo t q = 0 ∧ burnsBy t q = 0 :=
  flows_of_plain t q (fun m hm => stake_plain m (h m hm))

theorem bsei_ne_stsei : bseiA ≠ stseiA := by decide

theorem flows_mint (t tok : Addr) (to a : Nat) :
    mintsTo t [tokMsg hubA tok (.mint to a)] = (if tok = t then a else 0) ∧
    burnsBy t [tokMsg hubA tok (.mint to a)] = 0 := by
  simp [mintsTo, burnsBy, tokMsg]

theorem flows_burn (t tok : Addr) (a : Nat) :
    mintsTo t [tokMsg hubA tok (.burn a)] = 0 ∧
    burnsBy t [tokMsg hubA tok (.burn a)] = (if tok = t then a else 0) := by
  simp [mintsTo, burnsBy, tokMsg]

end Krp
