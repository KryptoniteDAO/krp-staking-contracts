/-
  Calm.lean — messages whose handling cannot depend on, or reach, the swap / oracle stubs.

  `Calm m`: by its call shape, `m` is none of: dispatcher `SwapToRewardDenom` (reads the oracle and the
  swap simulation), a swap-contract `SwapDenom`, hub `UpdateGlobalIndex` (emits the dispatcher swap),
  registry `RemoveValidator` / `Redelegations` (emit the hub index update), reward-contract
  `SwapToRewardDenom`.  Every contract, handling a calm message, emits only calm messages.
-/
import Krp.Lemmas.Reach
namespace Krp

def Calm : Msg → Bool
  | .wasm _ _ (.disp (.swap _ _)) _ => false
  | .wasm _ _ (.swapDenom _ _ _ _) _ => false
  | .wasm _ _ (.hub .updateGlobalIndex) _ => false
  | .wasm _ _ (.reg (.remove _)) _ => false
  | .wasm _ _ (.reg (.redelegations _)) _ => false
  | .wasm _ _ (.reward .swapToRewardDenom) _ => false
  | _ => true

def AllCalm (ms : List Msg) : Prop := ∀ m ∈ ms, Calm m = true

theorem foldl_calm (f : Res (Nat × Nat × List Msg) → Denom → Res (Nat × Nat × List Msg))
    (hstep : ∀ acc dn v, f acc dn = .ok v → ∃ v0, acc = .ok v0 ∧ (AllCalm v0.2.2 → AllCalm v.2.2)) :
    ∀ (l : List Denom) (acc : Res (Nat × Nat × List Msg)) (v : Nat × Nat × List Msg),
      l.foldl f acc = .ok v → ∃ v0, acc = .ok v0 ∧ (AllCalm v0.2.2 → AllCalm v.2.2) :=
  foldl_msgs (fun m => Calm m = true) f hstep

theorem handle_calm (s s' : Sys) (m : Msg) (ms : List Msg) (hc : Calm m = true)
    (hx : s.handle m = .ok (s', ms)) : AllCalm ms := by
  intro x h
  cases handle_emits hx x h with
  | swap => rfl
  | bsei o | stsei o => cases o <;> rfl
  | hub o | reward o | disp o | reg o => cases o <;> first | rfl | cases hc

end Krp
