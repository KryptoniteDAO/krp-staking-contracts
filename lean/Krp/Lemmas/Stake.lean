/-
  Stake.lean — the hub's stake as the staking module holds it: `totalDelegated` (the sum over the
  known validators), `ChainOK` (stake sits only on known validators, and where no delegation object
  exists there is none), and how delegating, undelegating and environment events move both.
-/
import Krp.Lemmas.Reach
namespace Krp
open HubSt

def totalDelegated (s : Sys) : Nat := (valUniverse.map s.chain.deleg).sum

/-- staking-module facts: stake sits only on known validators, and where no delegation object
    exists there is no stake -/
structure ChainOK (s : Sys) : Prop where
  outside : ∀ v, v ∉ valUniverse → s.chain.deleg v = 0
  unset : ∀ v, s.chain.delegSet v = false → s.chain.deleg v = 0

theorem sum_filter_zero (l : List Addr) (p : Addr → Bool) (f : Addr → Nat)
    (h : ∀ v, p v = false → f v = 0) : ((l.filter p).map f).sum = (l.map f).sum := by
  induction l with
  | nil => rfl
  | cons a l ih =>
    simp only [List.filter_cons]
    cases hp : p a
    · simp only [Bool.false_eq_true, if_false, List.map_cons, List.sum_cons, h a hp, Nat.zero_add]; exact ih
    · simp only [if_true, List.map_cons, List.sum_cons, ih]

theorem delegations_sum (s : Sys) (c : ChainOK s) :
    ((s.hubEnv.delegations).map (·.2)).sum = totalDelegated s := by
  show (((s.delegationsOf hubA)).map (·.2)).sum = _
  unfold Sys.delegationsOf totalDelegated
  simp only [if_true, List.map_map]
  exact sum_filter_zero valUniverse _ _ c.unset

theorem sum_upd (l : List Addr) (f : Addr → Nat) (v : Addr) (x : Nat) (hn : l.Nodup) :
    (l.map (upd f v x)).sum + (if v ∈ l then f v else 0) = (l.map f).sum + (if v ∈ l then x else 0) := by
  induction l with
  | nil => simp
  | cons a l ih =>
    have hn' := (List.nodup_cons.mp hn)
    have r := ih hn'.2
    simp only [List.map_cons, List.sum_cons, List.mem_cons]
    by_cases hav : v = a
    · subst hav
      have hnot : v ∉ l := hn'.1
      simp only [hnot, if_false, Nat.add_zero] at r
      simp only [upd_same, true_or, if_true]
      omega
    · have hne : a ≠ v := fun h => hav h.symm
      simp only [upd_other _ _ _ _ hne, hav, false_or]
      omega

theorem valUniverse_nodup : valUniverse.Nodup := by decide

theorem ChainOK.of_eq {s s' : Sys} (c : ChainOK s) (hd : s'.chain.deleg = s.chain.deleg)
    (hs : s'.chain.delegSet = s.chain.delegSet) : ChainOK s' :=
  ⟨fun w hw => by rw [hd]; exact c.outside w hw, fun w hw => by rw [hd]; rw [hs] at hw; exact c.unset w hw⟩

theorem ChainOK.restake {s s' : Sys} (c : ChainOK s) {v : Addr} {x : Nat} {b : Bool} (hv : v ∈ valUniverse)
    (hb : b = false → x = 0) (hd : s'.chain.deleg = upd s.chain.deleg v x)
    (hs : s'.chain.delegSet = upd s.chain.delegSet v b) :
    ChainOK s' ∧ totalDelegated s' + s.chain.deleg v = totalDelegated s + x := by
  refine ⟨⟨fun w hw => ?_, fun w hw => ?_⟩, ?_⟩
  · rw [hd, upd_other _ _ _ _ (fun h => hw (by rw [h]; exact hv))]; exact c.outside w hw
  · rw [hs] at hw; rw [hd]
    by_cases hwv : w = v
    · subst hwv; rw [upd_same] at hw ⊢; exact hb hw
    · rw [upd_other _ _ _ _ hwv] at hw ⊢; exact c.unset w hw
  · have := sum_upd valUniverse s.chain.deleg v x valUniverse_nodup
    simp only [hv, if_true] at this
    unfold totalDelegated; rw [hd]; exact this

theorem ChainOK.mem_of_pos {s : Sys} (c : ChainOK s) {v : Addr} (h : s.chain.deleg v ≠ 0) : v ∈ valUniverse :=
  Classical.byContradiction fun hv => h (c.outside v hv)

theorem ChainOK.env (s : Sys) (e : EnvOp) (c : ChainOK s) : ChainOK (s.env e) := by
  cases e with
  | slash v n d =>
    simp only [Sys.env]
    split
    · exact c
    · -- a slash scales the stake on `v`: where there was none there is none
      have zero : ∀ w, s.chain.deleg w = 0 → upd s.chain.deleg v (s.chain.deleg v * (d - n) / d) w = 0 := by
        intro w hw
        by_cases h : w = v
        · subst h; rw [upd_same, hw, Nat.zero_mul, Nat.zero_div]
        · rw [upd_other _ _ _ _ h]; exact hw
      exact ⟨fun w hw => zero w (c.outside w hw), fun w hw => zero w (c.unset w hw)⟩
  | slashUnbonding v n d => simp only [Sys.env]; split <;> exact ⟨c.outside, c.unset⟩
  | _ => exact ⟨c.outside, c.unset⟩

end Krp
