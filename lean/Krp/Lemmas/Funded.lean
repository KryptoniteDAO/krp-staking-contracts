/-
  Funded.lean — the hub's released, unpaid claims ("owed") against `prev_hub_balance` (C01).

  `owed h` = Σ over all wait-list entries of released batches of the entry's value at the batch's
  final withdraw rates — what the hub still has to pay out for batches it has released.  A release
  adds to it exactly the value of the released batches' entries at their new rates (`release_owed`),
  which is at most what arrived and, when exactly the undelegated coins arrived, at least that less
  rounding dust; a payout takes off exactly what is paid (`owed_pay`).
-/
import Krp.Lemmas.Release
import Krp.Lemmas.Wait
namespace Krp

theorem sumOn_mulDec {α : Type} (ks : List α) (f : α → Nat) (r : Nat) :
    sumOn ks (fun k => mulDec (f k) r) ≤ mulDec (sumOn ks f) r ∧
    mulDec (sumOn ks f) r ≤ sumOn ks (fun k => mulDec (f k) r) + ks.length := by
  induction ks with
  | nil => simp only [sumOn_nil, mulDec_zero_left, List.length_nil]; omega
  | cons k ks ih =>
    simp only [sumOn_cons, List.length_cons]
    have := mulDec_add (f k) (sumOn ks f) r
    omega

namespace HubSt

/-- value of the wait entry `k = (user, batch)` if its batch is released under history `hs` -/
def relValWith (hs : Nat → Option History) (h : HubSt) (k : Addr × Nat) : Nat :=
  match hs k.2 with
  | some x => if x.released then entryValue x (h.waitB k.1 k.2) (h.waitS k.1 k.2) else 0
  | none => 0

def owedWith (hs : Nat → Option History) (h : HubSt) : Nat := sumOn h.waitKeys (relValWith hs h)

def owed (h : HubSt) : Nat := owedWith h.hist h

def Funded (h : HubSt) : Prop := h.owed ≤ h.prevHubBalance

theorem entryValue_zero (x : History) : entryValue x 0 0 = 0 := by
  unfold entryValue; rw [mulDec_zero_left, mulDec_zero_left]

theorem owed_congr (h h' : HubSt) (k : h'.waitKeys = h.waitKeys) (b : h'.waitB = h.waitB)
    (s : h'.waitS = h.waitS) (hh : h'.hist = h.hist) : h'.owed = h.owed := by
  unfold owed owedWith relValWith; rw [k, b, s, hh]

theorem owedWith_upd (hs : Nat → Option History) (h : HubSt) (i : Nat) (x' : History)
    (hrel : x'.released = true) (hold : ∀ x, hs i = some x → x.released = false) :
    owedWith (upd hs i (some x')) h =
      owedWith hs h + sumOn (h.keysOf i) (fun k => entryValue x' (h.waitB k.1 k.2) (h.waitS k.1 k.2)) := by
  unfold owedWith keysOf
  rw [sumOn_filter, ← sumOn_add]
  refine sumOn_congr _ _ _ fun k _ => ?_
  unfold relValWith
  by_cases hk : k.2 = i
  · rw [hk, upd_same, if_pos (decide_eq_true rfl)]
    simp only [hrel, if_true]
    cases hx : hs i with
    | none => exact (Nat.zero_add _).symm
    | some x => simp only [hold x hx, Bool.false_eq_true, if_false, Nat.zero_add]
  · rw [upd_other _ _ _ _ hk, if_neg (by simpa using hk)]
    rfl

theorem batch_entries (h : HubSt) (i : Nat) (x' : History) :
    sumOn (h.keysOf i) (fun k => entryValue x' (h.waitB k.1 k.2) (h.waitS k.1 k.2)) ≤
      mulDec (h.claimsS i) x'.sWithdraw + mulDec (h.claimsB i) x'.bWithdraw ∧
    mulDec (h.claimsS i) x'.sWithdraw + mulDec (h.claimsB i) x'.bWithdraw ≤
      sumOn (h.keysOf i) (fun k => entryValue x' (h.waitB k.1 k.2) (h.waitS k.1 k.2)) + 2 * (h.keysOf i).length := by
  unfold entryValue
  rw [sumOn_add]
  have a := sumOn_mulDec (h.keysOf i) (fun k => h.waitS k.1 k.2) x'.sWithdraw
  have b := sumOn_mulDec (h.keysOf i) (fun k => h.waitB k.1 k.2) x'.bWithdraw
  unfold claimsS claimsB
  omega

theorem owedWith_fold (h : HubSt) (g : Nat → History) (hg : ∀ i, (g i).released = true) :
    ∀ (ids : List Nat) (hs : Nat → Option History), ids.Nodup →
      (∀ i ∈ ids, ∀ x, hs i = some x → x.released = false) →
      owedWith (ids.foldl (fun acc i => upd acc i (some (g i))) hs) h =
        owedWith hs h +
          sumOn ids (fun i => sumOn (h.keysOf i) (fun k => entryValue (g i) (h.waitB k.1 k.2) (h.waitS k.1 k.2))) := by
  intro ids
  induction ids with
  | nil => intro hs _ _; rfl
  | cons i ids ih =>
    intro hs hnd hun
    have hnd' := List.nodup_cons.mp hnd
    rw [List.foldl_cons, sumOn_cons, ih (upd hs i (some (g i))) hnd'.2 (fun j hj x hx => by
        rw [upd_other _ _ _ _ (fun e : j = i => hnd'.1 (e ▸ hj))] at hx
        exact hun j (List.mem_cons_of_mem _ hj) x hx),
      owedWith_upd hs h i (g i) (hg i) (hun i (List.mem_cons_self ..))]
    omega

/-- the batches one release processes -/
def relIds (h : HubSt) (cutoff : Nat) : List Nat := h.releasable cutoff (h.batchId + 1) (h.lastProcessedBatch + 1)

def pairsB (h : HubSt) (ids : List Nat) : List (Nat × Nat) :=
  ids.map (fun i => ((h.histOr i).bAmt, (h.histOr i).bWithdraw))
def pairsS (h : HubSt) (ids : List Nat) : List (Nat × Nat) :=
  ids.map (fun i => ((h.histOr i).sAmt, (h.histOr i).sWithdraw))

/-- the side condition under which a release never allocates more than arrived: for each token
    side of the group, either the side lost nothing, or `batches · loss ≤ 10^18` (D5 lies outside) -/
def GroupSafe (h : HubSt) (cutoff bal : Nat) : Prop :=
  SideSafe (h.relIds cutoff).length (sideTotal (h.pairsB (h.relIds cutoff)))
    (mulDec (bal - h.prevHubBalance)
      (if sideTotal (h.pairsS (h.relIds cutoff)) + sideTotal (h.pairsB (h.relIds cutoff)) > 0
       then D - fromRatio (sideTotal (h.pairsS (h.relIds cutoff)))
                  (sideTotal (h.pairsS (h.relIds cutoff)) + sideTotal (h.pairsB (h.relIds cutoff)))
       else 0)) ∧
  SideSafe (h.relIds cutoff).length (sideTotal (h.pairsS (h.relIds cutoff)))
    (bal - h.prevHubBalance - mulDec (bal - h.prevHubBalance)
      (if sideTotal (h.pairsS (h.relIds cutoff)) + sideTotal (h.pairsB (h.relIds cutoff)) > 0
       then D - fromRatio (sideTotal (h.pairsS (h.relIds cutoff)))
                  (sideTotal (h.pairsS (h.relIds cutoff)) + sideTotal (h.pairsB (h.relIds cutoff)))
       else 0))

theorem sideTotal_pairsB (h : HubSt) (ids : List Nat) :
    sideTotal (h.pairsB ids) = (ids.map (fun i => mulDec (h.histOr i).bAmt (h.histOr i).bWithdraw)).sum := by
  unfold sideTotal pairsB; rw [List.map_map]; rfl

theorem sideTotal_pairsS (h : HubSt) (ids : List Nat) :
    sideTotal (h.pairsS ids) = (ids.map (fun i => mulDec (h.histOr i).sAmt (h.histOr i).sWithdraw)).sum := by
  unfold sideTotal pairsS; rw [List.map_map]; rfl

/-- the history entry a release writes for batch `i` when the stSei side of the group (`sT`
    undelegated) receives `sA` and the bSei side (`bT` undelegated) receives `bA` -/
def relEntry (h : HubSt) (sT bT sA bA i : Nat) : History :=
  { h.histOr i with
    sWithdraw := newWithdrawRate (h.histOr i).sAmt (h.histOr i).sWithdraw sT (signedSub sT sA),
    bWithdraw := newWithdrawRate (h.histOr i).bAmt (h.histOr i).bWithdraw bT (signedSub bT bA),
    released := true }

theorem sideAlloc_pairsB (h : HubSt) (ids : List Nat) (sT bT sA bA : Nat) :
    sideAlloc (h.pairsB ids) bT (signedSub bT bA) =
      sumOn ids (fun i => mulDec (h.histOr i).bAmt (h.relEntry sT bT sA bA i).bWithdraw) := by
  unfold sideAlloc pairsB sumOn; rw [List.map_map]; rfl

theorem sideAlloc_pairsS (h : HubSt) (ids : List Nat) (sT bT sA bA : Nat) :
    sideAlloc (h.pairsS ids) sT (signedSub sT sA) =
      sumOn ids (fun i => mulDec (h.histOr i).sAmt (h.relEntry sT bT sA bA i).sWithdraw) := by
  unfold sideAlloc pairsS sumOn; rw [List.map_map]; rfl

/-- **What a release adds to `owed`**: for each batch it processes, the value of the batch's wait
    entries at the entry it writes. `sT`, `bT` = coins undelegated for the two token sides of the
    group, `bA` = the bSei side's share of the arrivals `bal − prev_hub_balance`. -/
theorem release_owed (h h1 : HubSt) (cutoff bal : Nat) (hx : h.processWithdrawRate cutoff bal = .ok h1)
    (sT bT bA : Nat) (hsT : sT = sideTotal (h.pairsS (h.relIds cutoff)))
    (hbT : bT = sideTotal (h.pairsB (h.relIds cutoff)))
    (hbA : bA = mulDec (bal - h.prevHubBalance) (if sT + bT > 0 then D - fromRatio sT (sT + bT) else 0)) :
    h1.owed = h.owed + sumOn (h.relIds cutoff) (fun i => sumOn (h.keysOf i) (fun k =>
      entryValue (h.relEntry sT bT (bal - h.prevHubBalance - bA) bA i) (h.waitB k.1 k.2) (h.waitS k.1 k.2))) := by
  have hun : ∀ i ∈ h.relIds cutoff, ∀ x, h.hist i = some x → x.released = false := by
    intro i hi x hxi
    obtain ⟨y, hy, hr, _⟩ := releasable_mem h cutoff _ _ i hi
    rw [hy] at hxi; cases hxi; exact hr
  rw [show h.owed = owedWith h.hist h from rfl,
    ← owedWith_fold h _ (fun _ => rfl) (h.relIds cutoff) h.hist (releasable_nodup _ _ _ _) hun]
  unfold processWithdrawRate at hx
  simp only [] at hx
  split at hx
  · rename_i hnil
    cases hx
    rw [show h.relIds cutoff = [] from hnil]; rfl
  · split at hx
    · cases hx
    · rename_i hch
      cases hx
      have hact : bal - h.prevHubBalance = (signedSub bal h.prevHubBalance).1 := by
        unfold signedSub at hch ⊢
        split
        · rename_i hlt; rw [if_pos hlt] at hch; exact absurd rfl hch
        · rfl
      subst hbA hsT hbT
      rw [sideTotal_pairsS, sideTotal_pairsB, hact]
      rfl

/-- **A release raises what the hub owes by at most what arrived.** `cb`: no batch has more
    recorded claims than its history entry (C07). -/
theorem release_owed_le (h h1 : HubSt) (cutoff bal : Nat)
    (hx : h.processWithdrawRate cutoff bal = .ok h1)
    (cb : ∀ i x, h.hist i = some x → h.claimsB i ≤ x.bAmt ∧ h.claimsS i ≤ x.sAmt)
    (hs : h.GroupSafe cutoff bal) :
    h1.owed ≤ h.owed + (bal - h.prevHubBalance) := by
  obtain ⟨hsB, hsS⟩ := hs
  rw [release_owed h h1 cutoff bal hx _ _ _ rfl rfl rfl]
  have mem : ∀ i ∈ h.relIds cutoff, ∃ x, h.hist i = some x ∧ x.released = false ∧ x.time ≤ cutoff :=
    fun i hi => releasable_mem h cutoff _ _ i hi
  generalize h.relIds cutoff = ids at *
  generalize hsT : sideTotal (h.pairsS ids) = sT at *
  generalize hbT : sideTotal (h.pairsB ids) = bT at *
  generalize hbA : mulDec (bal - h.prevHubBalance) (if sT + bT > 0 then D - fromRatio sT (sT + bT) else 0) = bA at *
  have hbAle : bA ≤ bal - h.prevHubBalance := by
    rw [← hbA]; exact mulDec_le _ _ (by split <;> omega)
  -- each side is allocated at most what it receives
  have aB := side_alloc_le (h.pairsB ids) bA (by rw [hbT]; simpa [pairsB] using hsB)
  have aS := side_alloc_le (h.pairsS ids) (bal - h.prevHubBalance - bA) (by rw [hsT]; simpa [pairsS] using hsS)
  rw [hbT, sideAlloc_pairsB h ids sT bT (bal - h.prevHubBalance - bA) bA] at aB
  rw [hsT, sideAlloc_pairsS h ids sT bT (bal - h.prevHubBalance - bA) bA] at aS
  -- and the entries of a batch are worth at most its recorded amounts at the new rates
  generalize h.relEntry sT bT (bal - h.prevHubBalance - bA) bA = g at *
  have le := sumOn_le ids
    (fun i => sumOn (h.keysOf i) (fun k => entryValue (g i) (h.waitB k.1 k.2) (h.waitS k.1 k.2)))
    (fun i => mulDec (h.histOr i).sAmt (g i).sWithdraw + mulDec (h.histOr i).bAmt (g i).bWithdraw) (fun i hi => by
      obtain ⟨y, hy, _, _⟩ := mem i hi
      have c := cb i y hy
      rw [show y = h.histOr i by simp [histOr, hy]] at c
      have be := (batch_entries h i (g i)).1
      have m1 := mulDec_mono_left _ _ (g i).sWithdraw c.2
      have m2 := mulDec_mono_left _ _ (g i).bWithdraw c.1
      omega)
  rw [sumOn_add] at le
  omega

theorem owed_delWait (h : HubSt) (wf : h.WaitWF) (u : Addr) (b : Nat) :
    (h.delWait u b).owed + relValWith h.hist h (u, b) = h.owed := by
  unfold owed owedWith
  have hkeys : (h.delWait u b).waitKeys = h.waitKeys := rfl
  have hhist : (h.delWait u b).hist = h.hist := rfl
  rw [hkeys, hhist]
  have hother : ∀ k, k ≠ (u, b) → relValWith h.hist (h.delWait u b) k = relValWith h.hist h k := by
    intro k hk
    have o := (delWait_claims h wf u b).2.2.2 k.1 k.2 (by
      intro e; apply hk; cases k; simp at e ⊢; exact e)
    unfold relValWith; rw [o.1, o.2]
  have hz : relValWith h.hist (h.delWait u b) (u, b) = 0 := by
    unfold relValWith
    simp only [delWait, upd_same]
    split
    · split
      · exact entryValue_zero _
      · rfl
    · rfl
  by_cases hm : (u, b) ∈ h.waitKeys
  · have := sumOn_except_in h.waitKeys (relValWith h.hist h) (relValWith h.hist (h.delWait u b)) (u, b) hother wf.nodup hm
    omega
  · have := sumOn_except_notin h.waitKeys (relValWith h.hist h) (relValWith h.hist (h.delWait u b)) (u, b) hother hm
    have z : relValWith h.hist h (u, b) = 0 := by
      unfold relValWith
      simp only [wf.zeroB u b hm, wf.zeroS u b hm]
      split
      · split
        · exact entryValue_zero _
        · rfl
      · rfl
    omega

theorem owed_delWait_fold (u : Addr) : ∀ (ids : List Nat) (h : HubSt), h.WaitWF → ids.Nodup →
    (∀ i ∈ ids, ∃ x, h.hist i = some x ∧ x.released = true) →
    (ids.foldl (fun hh i => hh.delWait u i) h).owed +
      (ids.map (fun i => entryValue (h.histOr i) (h.waitB u i) (h.waitS u i))).sum = h.owed := by
  intro ids
  induction ids with
  | nil => intro h _ _ _; simp
  | cons b bs ih =>
    intro h wf hnd hrel
    have hnd' := List.nodup_cons.mp hnd
    simp only [List.foldl_cons, List.map_cons, List.sum_cons]
    have d := delWait_claims h wf u b
    have one := owed_delWait h wf u b
    obtain ⟨x, hxb, hxr⟩ := hrel b (by simp)
    have ev : relValWith h.hist h (u, b) = entryValue (h.histOr b) (h.waitB u b) (h.waitS u b) := by
      unfold relValWith histOr
      simp only [hxb, hxr, if_true, Option.getD]
    have r := ih (h.delWait u b) d.1 hnd'.2 (fun i hi => hrel i (by simp [hi]))
    have same : (bs.map (fun i => entryValue ((h.delWait u b).histOr i) ((h.delWait u b).waitB u i) ((h.delWait u b).waitS u i))) =
        (bs.map (fun i => entryValue (h.histOr i) (h.waitB u i) (h.waitS u i))) := by
      apply List.map_congr_left
      intro i hi
      have hib : i ≠ b := fun e => hnd'.1 (e ▸ hi)
      have o := d.2.2.2 u i (by intro e; apply hib; simpa using e)
      rw [o.1, o.2]; rfl
    rw [same] at r
    omega

theorem owed_pay (h : HubSt) (wf : h.WaitWF) (u : Addr) :
    ((h.finished u).2.foldl (fun hh i => hh.delWait u i) h).owed + (h.finished u).1 = h.owed := by
  refine owed_delWait_fold u (h.finished u).2 h wf ?_ fun _ hi => h.finished_released u hi
  unfold finished userBatches
  exact nodup_filter _ _ (nodup_filter _ _ List.nodup_range)

/-- **Absent slashing and unsolicited transfers a release loses only dust.** If exactly the amount
    undelegated for the group arrived (`bal − prev = Σ undelegated`, within the envelope 10^18), what
    the hub owes afterwards covers everything that arrived up to two base units per batch and two per
    wait entry of the released batches. `ce`: unreleased batches record exactly their claim sums (C07). -/
theorem release_owed_ge (h h1 : HubSt) (cutoff bal : Nat)
    (hx : h.processWithdrawRate cutoff bal = .ok h1)
    (ce : ∀ i x, h.hist i = some x → x.released = false → h.claimsB i = x.bAmt ∧ h.claimsS i = x.sAmt)
    (hexact : bal - h.prevHubBalance =
      sideTotal (h.pairsS (h.relIds cutoff)) + sideTotal (h.pairsB (h.relIds cutoff)))
    (hle : bal - h.prevHubBalance ≤ D)
    (hamt : ∀ i x, h.hist i = some x → x.bAmt ≤ D ∧ x.sAmt ≤ D) :
    h.owed + (bal - h.prevHubBalance) ≤
      h1.owed + 2 * (h.relIds cutoff).length + ((h.relIds cutoff).map (fun i => 2 * (h.keysOf i).length)).sum := by
  rw [release_owed h h1 cutoff bal hx _ _ _ rfl rfl rfl, hexact]
  rw [hexact] at hle
  have mem : ∀ i ∈ h.relIds cutoff, ∃ x, h.hist i = some x ∧ x.released = false ∧ x.time ≤ cutoff :=
    fun i hi => releasable_mem h cutoff _ _ i hi
  generalize h.relIds cutoff = ids at *
  have lenB : (h.pairsB ids).length = ids.length := by simp [pairsB]
  have lenS : (h.pairsS ids).length = ids.length := by simp [pairsS]
  -- each side receives exactly what was undelegated for it, and allocates it up to a unit per batch
  have gB := side_alloc_ge (h.pairsB ids) (by
    intro x hx'
    obtain ⟨i, hi, rfl⟩ := List.mem_map.mp hx'
    obtain ⟨y, hy, _, _⟩ := mem i hi
    rw [show h.histOr i = y by simp [histOr, hy]]; exact (hamt i y hy).1)
  have gS := side_alloc_ge (h.pairsS ids) (by
    intro x hx'
    obtain ⟨i, hi, rfl⟩ := List.mem_map.mp hx'
    obtain ⟨y, hy, _, _⟩ := mem i hi
    rw [show h.histOr i = y by simp [histOr, hy]]; exact (hamt i y hy).2)
  rw [lenB] at gB
  rw [lenS] at gS
  generalize sideTotal (h.pairsS ids) = sT at *
  generalize sideTotal (h.pairsB ids) = bT at *
  by_cases hpos : 0 < sT + bT
  · rw [if_pos hpos, split_exact sT bT hpos hle, show sT + bT - bT = sT by omega]
    rw [sideAlloc_pairsB h ids sT bT sT bT] at gB
    rw [sideAlloc_pairsS h ids sT bT sT bT] at gS
    -- the entries of a batch are worth its recorded amounts at the new rates, up to two units per entry
    generalize h.relEntry sT bT sT bT = g at *
    have ge := sumOn_le ids
      (fun i => mulDec (h.histOr i).sAmt (g i).sWithdraw + mulDec (h.histOr i).bAmt (g i).bWithdraw)
      (fun i => sumOn (h.keysOf i) (fun k => entryValue (g i) (h.waitB k.1 k.2) (h.waitS k.1 k.2)) +
        2 * (h.keysOf i).length) (fun i hi => by
        obtain ⟨y, hy, hr, _⟩ := mem i hi
        have c := ce i y hy hr
        rw [show y = h.histOr i by simp [histOr, hy]] at c
        have be := (batch_entries h i (g i)).2
        rw [c.1, c.2] at be
        exact be)
    rw [sumOn_add, sumOn_add] at ge
    show _ ≤ _ + _ + sumOn ids (fun i => 2 * (h.keysOf i).length)
    omega
  · omega

end HubSt
end Krp
