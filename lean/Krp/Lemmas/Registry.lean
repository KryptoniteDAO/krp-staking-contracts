/-
  Lemmas/Registry.lean — the `for` passes of `calculate_delegations` / `calculate_undelegations`
  in closed form: what a pass leaves unplaced (`capSum`, `takeSum`) and the bound on each position.
-/
import Krp.Registry
namespace Krp

theorem sum_replicate_zero (n : Nat) : (List.replicate n 0).sum = 0 := by
  induction n with
  | zero => rfl
  | succ n ih => simp [List.replicate_succ, ih]

theorem nth_replicate_zero (n j : Nat) : nth (List.replicate n 0) j = 0 := by
  induction n generalizing j with
  | zero => simp [nth]
  | succ n ih => cases j <;> simp [List.replicate_succ, nth, ih]

/-- room below the target at each position, summed over the list -/
def capSum (cpv rem : Nat) : Nat → List Nat → Nat
  | _, [] => 0
  | idx, d :: ds => (cpv + extraCoin idx rem - d) + capSum cpv rem (idx + 1) ds

def targetSum (cpv rem : Nat) : Nat → List Nat → Nat
  | _, [] => 0
  | idx, _ :: ds => (cpv + extraCoin idx rem) + targetSum cpv rem (idx + 1) ds

/-- excess above the target at each position, summed over the list -/
def takeSum (cpv rem : Nat) : Nat → List Nat → Nat
  | _, [] => 0
  | idx, d :: ds => (d - min (cpv + extraCoin idx rem) d) + takeSum cpv rem (idx + 1) ds

theorem targetSum_eq (cpv rem idx : Nat) (ds : List Nat) :
    targetSum cpv rem idx ds = ds.length * cpv + min (rem - idx) ds.length := by
  induction ds generalizing idx with
  | nil => simp [targetSum]
  | cons d ds ih =>
    simp only [targetSum, ih, List.length_cons, extraCoin]
    rw [Nat.succ_mul]
    split <;> omega

theorem targetSum_le_cap (cpv rem idx : Nat) (ds : List Nat) :
    targetSum cpv rem idx ds ≤ capSum cpv rem idx ds + ds.sum := by
  induction ds generalizing idx with
  | nil => simp [targetSum, capSum]
  | cons d ds ih =>
    have := ih (idx + 1)
    simp only [targetSum, capSum, List.sum_cons]
    omega

theorem sum_le_take (cpv rem idx : Nat) (ds : List Nat) :
    ds.sum ≤ takeSum cpv rem idx ds + targetSum cpv rem idx ds := by
  induction ds generalizing idx with
  | nil => simp [targetSum, takeSum]
  | cons d ds ih =>
    have := ih (idx + 1)
    simp only [targetSum, takeSum, List.sum_cons]
    omega

theorem delegPass_spec (cpv rem : Nat) (ds : List Nat) (idx amt : Nat) :
    (delegPass cpv rem idx amt ds).1 = amt - capSum cpv rem idx ds ∧
    (delegPass cpv rem idx amt ds).2.sum + (delegPass cpv rem idx amt ds).1 = amt ∧
    (delegPass cpv rem idx amt ds).2.length = ds.length := by
  induction ds generalizing idx amt with
  | nil => exact ⟨rfl, Nat.zero_add _, rfl⟩
  | cons d ds ih =>
    simp only [delegPass, capSum]
    split
    · have h := ih (idx + 1) amt
      simp only [List.sum_cons, List.length_cons]
      omega
    · generalize cpv + extraCoin idx rem - d = room
      split
      · simp only [List.sum_cons, List.length_cons, sum_replicate_zero, List.length_replicate, and_true]
        omega
      · have h := ih (idx + 1) (amt - min room amt)
        simp only [List.sum_cons, List.length_cons]
        omega

theorem delegPass_le_cap (cpv rem : Nat) (ds : List Nat) (idx amt j : Nat) :
    nth (delegPass cpv rem idx amt ds).2 j ≤ cpv + extraCoin (idx + j) rem - nth ds j := by
  induction ds generalizing idx amt j with
  | nil => simp [delegPass, nth]
  | cons d ds ih =>
    simp only [delegPass]
    split
    · cases j with
      | zero => simp [nth]
      | succ j =>
        have := ih (idx + 1) amt j
        simp only [nth]
        rw [show idx + (j + 1) = idx + 1 + j by omega]; exact this
    · split
      · cases j with
        | zero => simp [nth]; omega
        | succ j => simp [nth, nth_replicate_zero]
      · cases j with
        | zero => simp [nth]; omega
        | succ j =>
          have := ih (idx + 1) (amt - min (cpv + extraCoin idx rem - d) amt) j
          simp only [nth]
          rw [show idx + (j + 1) = idx + 1 + j by omega]; exact this

theorem undelegPass_spec (cpv rem : Nat) (ds : List Nat) (idx amt : Nat) :
    (undelegPass cpv rem idx amt ds).1 = amt - takeSum cpv rem idx ds ∧
    (undelegPass cpv rem idx amt ds).2.sum + (undelegPass cpv rem idx amt ds).1 = amt ∧
    (undelegPass cpv rem idx amt ds).2.length = ds.length := by
  induction ds generalizing idx amt with
  | nil => exact ⟨rfl, Nat.zero_add _, rfl⟩
  | cons d ds ih =>
    simp only [undelegPass, takeSum]
    generalize d - min (cpv + extraCoin idx rem) d = excess
    split
    · simp only [List.sum_cons, List.length_cons, sum_replicate_zero, List.length_replicate, and_true]
      omega
    · have h := ih (idx + 1) (amt - min excess amt)
      simp only [List.sum_cons, List.length_cons]
      omega

theorem undelegPass_le (cpv rem : Nat) (ds : List Nat) (idx amt j : Nat) :
    nth (undelegPass cpv rem idx amt ds).2 j ≤
      nth ds j - min (cpv + extraCoin (idx + j) rem) (nth ds j) := by
  induction ds generalizing idx amt j with
  | nil => simp [undelegPass, nth]
  | cons d ds ih =>
    simp only [undelegPass]
    split
    · cases j with
      | zero => simp [nth]; omega
      | succ j => simp [nth, nth_replicate_zero]
    · cases j with
      | zero => simp [nth]; omega
      | succ j =>
        have := ih (idx + 1) (amt - min (d - min (cpv + extraCoin idx rem) d) amt) j
        simp only [nth]
        rw [show idx + (j + 1) = idx + 1 + j by omega]; exact this

theorem zipAdd_zero (n : Nat) (p : List Nat) (h : p.length = n) :
    zipAdd (List.replicate n 0) p = p := by
  induction n generalizing p with
  | zero => cases p <;> simp_all [zipAdd]
  | succ n ih =>
    cases p with
    | nil => simp at h
    | cons a p => simp [List.replicate_succ, zipAdd, ih p (by simpa using h)]

end Krp
