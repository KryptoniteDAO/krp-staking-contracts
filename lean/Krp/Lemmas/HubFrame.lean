/-
  HubFrame.lean — what the hub's procedures leave alone: the results of `query_actual_state`,
  `process_undelegations` and `process_withdraw_rate` as `{ h with … }`, the parameters and the
  configuration (`SameParams`, `SameConfig`) handler by handler, and for the whole entry point which
  messages write them (`hubExec_frame`).
-/
import Krp.Lemmas.HubSpec
namespace Krp

theorem foldl_keeps {σ α β : Type} (p : σ → β) (f : σ → α → σ) (hf : ∀ s x, p (f s x) = p s)
    (l : List α) (s : σ) : p (l.foldl f s) = p s := by
  induction l generalizing s with
  | nil => rfl
  | cons x xs ih => exact (ih (f s x)).trans (hf s x)

namespace HubSt

structure SameParams (h h' : HubSt) : Prop where
  epoch : h'.epoch = h.epoch
  unbonding : h'.unbonding = h.unbonding
  fee : h'.fee = h.fee
  thr : h'.thr = h.thr
  rewardDenom : h'.rewardDenom = h.rewardDenom
  paused : h'.paused = h.paused

structure SameConfig (h h' : HubSt) : Prop where
  creator : h'.creator = h.creator
  updater : h'.updater = h.updater
  dispatcher : h'.dispatcher = h.dispatcher
  registry : h'.registry = h.registry
  bsei : h'.bsei = h.bsei
  stsei : h'.stsei = h.stsei
  airdrop : h'.airdrop = h.airdrop
  rewards : h'.rewards = h.rewards
  newOwner : h'.newOwner = h.newOwner

theorem SameConfig.refl (h : HubSt) : SameConfig h h := ⟨rfl, rfl, rfl, rfl, rfl, rfl, rfl, rfl, rfl⟩

/-- configuration and parameters as one value, so that "this handler writes neither" is one `rfl`
    once the new state is given as `{ h with … }` -/
def settings (h : HubSt) :=
  ((h.creator, h.updater, h.dispatcher, h.registry, h.bsei, h.stsei, h.airdrop, h.rewards, h.newOwner),
   (h.epoch, h.unbonding, h.fee, h.thr, h.rewardDenom, h.paused))

theorem same_of_settings {h h' : HubSt} (e : h'.settings = h.settings) : SameParams h h' ∧ SameConfig h h' := by
  simp only [settings, Prod.mk.injEq] at e
  obtain ⟨⟨c1, c2, c3, c4, c5, c6, c7, c8, c9⟩, p1, p2, p3, p4, p5, p6⟩ := e
  exact ⟨⟨p1, p2, p3, p4, p5, p6⟩, ⟨c1, c2, c3, c4, c5, c6, c7, c8, c9⟩⟩

/-! What the three inner procedures write, as `{ h with … }`: every statement that they leave some
    other field alone is then `rfl`. -/

theorem actualState_shape {h st : HubSt} {e : HubEnv} (hx : h.actualState e = .ok st) :
    ∃ bB sB bR sR, st = { h with bBond := bB, sBond := sB, bRate := bR, sRate := sR } := by
  unfold actualState at hx
  exc_norm at hx
  exc_split at hx
  all_goals exact ⟨_, _, _, _, rfl⟩

theorem processUndelegations_shape {h h' : HubSt} {e : HubEnv} {ms : List Msg}
    (hx : h.processUndelegations e = .ok (h', ms)) :
    ∃ sB bB x, h' = { h with sBond := sB, bBond := bB, hist := upd h.hist h.batchId (some x),
                             batchId := h.batchId + 1, reqB := 0, reqS := 0, lastUnbondedTime := e.now } := by
  unfold processUndelegations at hx
  exc_split at hx
  exact ⟨_, _, _, rfl⟩

theorem processWithdrawRate_shape {h h' : HubSt} {cutoff bal : Nat}
    (hx : h.processWithdrawRate cutoff bal = .ok h') :
    ∃ hist lp, h' = { h with hist := hist, lastProcessedBatch := lp } := by
  unfold processWithdrawRate at hx
  simp only [] at hx
  exc_split at hx
  all_goals exact ⟨_, _, rfl⟩

theorem withdraw_spec (h h' : HubSt) (e : HubEnv) (sender : Addr) (ms : List Msg)
    (hx : h.withdraw e sender = .ok (h', ms)) :
    h.unbonding ≤ e.now ∧
    ∃ h1, h.processWithdrawRate (e.now - h.unbonding) e.hubBalance = .ok h1 ∧
      (h1.finished sender).1 ≠ 0 ∧ (h1.finished sender).1 ≤ e.hubBalance ∧
      h' = { ((h1.finished sender).2.foldl (fun hh i => hh.delWait sender i) h1) with
               prevHubBalance := e.hubBalance - (h1.finished sender).1 } ∧
      ms = [Msg.bankSend e.self sender 0 (h1.finished sender).1] := by
  unfold withdraw at hx
  split at hx
  · cases hx
  · rename_i hnow
    split at hx
    · cases hx
    · rename_i h1 hp
      split at hx
      · cases hx
      · rename_i hne
        split at hx
        · cases hx
        · rename_i hle
          injection hx with hx; injection hx with e1 e2
          exact ⟨by omega, h1, hp, hne, by omega, e1.symm, e2.symm⟩

theorem actualState_settings {h st : HubSt} {e : HubEnv} (hx : h.actualState e = .ok st) :
    st.settings = h.settings := by
  obtain ⟨_, _, _, _, rfl⟩ := actualState_shape hx
  rfl

theorem processUndelegations_settings {h h' : HubSt} {e : HubEnv} {ms : List Msg}
    (hx : h.processUndelegations e = .ok (h', ms)) : h'.settings = h.settings := by
  obtain ⟨_, _, _, rfl⟩ := processUndelegations_shape hx
  rfl

theorem frame_after {h st h' : HubSt} {e : HubEnv} (hst : h.actualState e = .ok st)
    (e1 : h'.settings = st.settings) : SameParams h h' ∧ SameConfig h h' :=
  same_of_settings (e1.trans (actualState_settings hst))

theorem afterUnbond_settings (st : HubSt) (u : Addr) (supply a withFee : Nat) :
    (st.afterUnbondB u supply a withFee).settings = st.settings ∧ (st.afterUnbondS u a).settings = st.settings := by
  unfold afterUnbondB afterUnbondS addWait
  exact ⟨rfl, rfl⟩

theorem withdraw_frame (h h' : HubSt) (e : HubEnv) (sender : Addr) (ms : List Msg)
    (hx : h.withdraw e sender = .ok (h', ms)) : SameParams h h' ∧ SameConfig h h' := by
  obtain ⟨_, h1, hp, _, _, rfl, _⟩ := withdraw_spec h h' e sender ms hx
  obtain ⟨_, _, e1⟩ := processWithdrawRate_shape hp
  have f1 : h1.settings = h.settings := by rw [e1]; rfl
  exact same_of_settings
    ((foldl_keeps settings (fun hh i => hh.delWait sender i) (fun _ _ => rfl) _ h1).trans f1)

theorem unbondB_frame (h h' : HubSt) (e : HubEnv) (a : Nat) (u : Addr) (ms : List Msg)
    (hx : h.unbondB e a u = .ok (h', ms)) : SameParams h h' ∧ SameConfig h h' := by
  obtain ⟨st, supply, withFee, tok, hst, _, _, _, _, _, hcase⟩ := unbondB_spec h h' e a u ms hx
  have e1 := (afterUnbond_settings st u supply a withFee).1
  rcases hcase with ⟨_, um, hp, _⟩ | ⟨_, rfl, _⟩
  · exact frame_after hst ((processUndelegations_settings hp).trans e1)
  · exact frame_after hst e1

theorem unbondS_frame (h h' : HubSt) (e : HubEnv) (a : Nat) (u : Addr) (ms : List Msg)
    (hx : h.unbondS e a u = .ok (h', ms)) : SameParams h h' ∧ SameConfig h h' := by
  obtain ⟨st, tok, hst, _, _, hcase⟩ := unbondS_spec h h' e a u ms hx
  have e1 := (afterUnbond_settings st u 0 a 0).2
  rcases hcase with ⟨_, um, hp, _⟩ | ⟨_, rfl, _⟩
  · exact frame_after hst ((processUndelegations_settings hp).trans e1)
  · exact frame_after hst e1

theorem convertSB_frame (h h' : HubSt) (e : HubEnv) (a : Nat) (u : Addr) (ms : List Msg)
    (hx : h.convertSB e a u = .ok (h', ms)) : SameParams h h' ∧ SameConfig h h' := by
  obtain ⟨st, _, _, _, _, _, hst, _, _, _, _, _, _, _, _, rfl, _⟩ := convertSB_spec h h' e a u ms hx
  exact frame_after hst rfl

theorem convertBS_frame (h h' : HubSt) (e : HubEnv) (a : Nat) (u : Addr) (ms : List Msg)
    (hx : h.convertBS e a u = .ok (h', ms)) : SameParams h h' ∧ SameConfig h h' := by
  obtain ⟨st, _, _, _, _, _, hst, _, _, _, _, _, _, _, _, rfl, _⟩ := convertBS_spec h h' e a u ms hx
  exact frame_after hst rfl

theorem bond_frame (h h' : HubSt) (e : HubEnv) (s : Addr) (f : List (Denom × Nat)) (ms : List Msg) :
    (h.bondB e s f = .ok (h', ms) → SameParams h h' ∧ SameConfig h h') ∧
    (h.bondS e s f = .ok (h', ms) → SameParams h h' ∧ SameConfig h h') ∧
    (h.bondR e s f = .ok (h', ms) → SameParams h h' ∧ SameConfig h h') := by
  refine ⟨fun hx => ?_, fun hx => ?_, fun hx => ?_⟩
  · obtain ⟨_, st, _, _, _, _, hst, _, _, _, _, rfl, _⟩ := bondB_spec h h' e s f ms hx
    exact frame_after hst rfl
  · obtain ⟨_, st, _, _, _, hst, _, _, _, rfl, _⟩ := bondS_spec h h' e s f ms hx
    exact frame_after hst rfl
  · obtain ⟨_, st, _, _, hst, _, rfl⟩ := bondR_spec h h' e s f ms hx
    exact frame_after hst rfl

theorem migrate_frame (h : HubSt) (limit : Option Nat) :
    SameConfig h (h.migrate limit) ∧ (h.migrate limit).fee = h.fee ∧ (h.migrate limit).thr = h.thr ∧
    (h.migrate limit).epoch = h.epoch ∧ (h.migrate limit).unbonding = h.unbonding ∧
    (h.migrate limit).rewardDenom = h.rewardDenom ∧
    ((h.migrate limit).paused = h.paused ∨ (h.migrate limit).legacy = []) := by
  unfold migrate
  simp only []
  split
  · exact ⟨SameConfig.refl _, rfl, rfl, rfl, rfl, rfl, Or.inl rfl⟩
  · obtain ⟨p, c⟩ := same_of_settings
      (foldl_keeps settings migrateOne (fun _ _ => rfl) (h.legacy.take (limit.getD 1000)) h)
    refine ⟨⟨c.creator, c.updater, c.dispatcher, c.registry, c.bsei, c.stsei, c.airdrop, c.rewards,
      c.newOwner⟩, p.fee, p.thr, p.epoch, p.unbonding, p.rewardDenom, ?_⟩
    by_cases hr : h.legacy.drop (limit.getD 1000) = []
    · right; simp only [hr]
    · left; simp only [hr, if_false]; exact p.paused

end HubSt

open HubSt in
/-- `migrate_unbond_wait_lists` rewrites the wait lists, the legacy list and (once that is empty)
    the pause flag — no other field -/
theorem HubSt.migrate_shape (h : HubSt) (limit : Option Nat) :
    ∃ ws wb wst wk lg p, h.migrate limit =
      { h with waitSet := ws, waitB := wb, waitS := wst, waitKeys := wk, legacy := lg, paused := p } := by
  have fold : ∀ (l : List (Addr × Nat × Nat)) (g : HubSt), ∃ ws wb wst wk,
      l.foldl migrateOne g = { g with waitSet := ws, waitB := wb, waitS := wst, waitKeys := wk } := by
    intro l
    induction l with
    | nil => exact fun g => ⟨_, _, _, _, rfl⟩
    | cons x xs ih => exact fun g => ih (migrateOne g x)
  unfold migrate
  simp only []
  split
  · exact ⟨_, _, _, _, _, _, rfl⟩
  · obtain ⟨_, _, _, _, e⟩ := fold (h.legacy.take (limit.getD 1000)) h
    rw [e]
    exact ⟨_, _, _, _, _, _, rfl⟩

open HubSt in
/-- Which hub messages can change the parameters, and which the configuration: the wait-list
    migration (it may clear the pause flag) and UpdateParams; UpdateConfig, SetOwner and
    AcceptOwnership. Every other handler leaves both groups of fields alone. -/
theorem hubExec_frame {h h' : HubSt} {e : HubEnv} {sender : Addr} {funds : List (Denom × Nat)}
    {m : HubMsg} {ms : List Msg} (hx : hubExec h e sender funds m = .ok (h', ms)) :
    (SameParams h h' ∨ (∃ l, m = .migrateWaitList l ∧ h' = h.migrate l) ∨
      ∃ ep ub fee thr p rd, m = .updateParams ep ub fee thr p rd ∧
        h.updateParams sender ep ub fee thr p rd = .ok h') ∧
    (SameConfig h h' ∨
      (∃ d r b s a rw u, m = .updateConfig d r b s a rw u ∧
        h.updateConfig e.self sender d r b s a rw u = .ok (h', ms)) ∨
      (∃ a, m = .setOwner a ∧ sender = h.creator ∧ h' = { h with newOwner := a }) ∨
      m = .acceptOwnership ∧ sender = h.newOwner ∧ h' = { h with creator := h.newOwner }) := by
  have both {P Q : Prop} (f : SameParams h h' ∧ SameConfig h h') :
      (SameParams h h' ∨ P) ∧ (SameConfig h h' ∨ Q) := ⟨.inl f.1, .inl f.2⟩
  cases hubExec_route hx with
  | migrate l _ hh _ =>
    subst hh
    exact ⟨.inr (.inl ⟨l, rfl, rfl⟩), .inl (migrate_frame h l).1⟩
  | params ep ub fee thr p rd hr _ =>
    refine ⟨.inr (.inr ⟨ep, ub, fee, thr, p, rd, rfl, hr⟩), .inl ?_⟩
    obtain ⟨_, _, _, rfl⟩ := updateParams_spec hr
    exact ⟨rfl, rfl, rfl, rfl, rfl, rfl, rfl, rfl, rfl⟩
  | unbondB _ _ _ _ _ _ hr => exact both (unbondB_frame _ _ _ _ _ _ hr)
  | unbondS _ _ _ _ _ _ _ hr => exact both (unbondS_frame _ _ _ _ _ _ hr)
  | convertBS _ _ _ _ _ _ hr => exact both (convertBS_frame _ _ _ _ _ _ hr)
  | convertSB _ _ _ _ _ _ _ hr => exact both (convertSB_frame _ _ _ _ _ _ hr)
  | bond _ hr => exact both ((bond_frame _ _ _ _ _ _).1 hr)
  | bondForStSei _ hr => exact both ((bond_frame _ _ _ _ _ _).2.1 hr)
  | bondRewards _ hr => exact both ((bond_frame _ _ _ _ _ _).2.2 hr)
  | updateGlobalIndex _ hr =>
    obtain ⟨_, _, _, _, rfl⟩ := updateGlobal_spec hr
    exact both (same_of_settings rfl)
  | withdrawUnbonded _ hr => exact both (withdraw_frame _ _ _ _ _ hr)
  | checkSlashing _ hr _ => exact both (same_of_settings (actualState_settings hr))
  | updateConfig d r b s a rw u _ hr =>
    refine ⟨.inl ?_, .inr (.inl ⟨d, r, b, s, a, rw, u, rfl, hr⟩)⟩
    obtain ⟨_, _, _, rfl, _⟩ := updateConfig_spec hr
    exact ⟨rfl, rfl, rfl, rfl, rfl, rfl⟩
  | setOwner a _ hs hh _ =>
    refine ⟨.inl ?_, .inr (.inr (.inl ⟨a, rfl, hs, hh⟩))⟩
    subst hh
    exact ⟨rfl, rfl, rfl, rfl, rfl, rfl⟩
  | acceptOwnership _ hs hh _ =>
    refine ⟨.inl ?_, .inr (.inr (.inr ⟨rfl, hs, hh⟩))⟩
    subst hh
    exact ⟨rfl, rfl, rfl, rfl, rfl, rfl⟩
  | swapHook _ _ hh _ | claimAirdrop _ _ hh _ | redelegateProxy _ _ _ _ hh _ =>
    subst hh
    exact both (same_of_settings rfl)

end Krp
