/-
  Arrive.lean — the coins of matured undelegations are in the hub's account (C01).

  `maturedSum h ub t` = Σ over the unreleased batches whose undelegation the chain has paid by time
  `t` (entry time + the chain's unbonding time ≤ t) of the coins undelegated for them.
  `ArriveQ s q` (a queue invariant, like C02's `HubFund`): the hub's balance covers
  `prev_hub_balance`, the hub's pending outflows and `maturedSum`; every immature unreleased batch is
  covered by unbonding-queue entries completing exactly at its maturity (plus, for the batch being
  closed in this very transaction, the Undelegate messages still queued).
-/
import Krp.Lemmas.Shape
import Krp.Lemmas.Funded
import Krp.Props.C02
namespace Krp
open HubSt

theorem hubExec_balance_irrelevant (h : HubSt) (e : HubEnv) (x : Nat) (sender : Addr)
    (funds : List (Denom × Nat)) (m : HubMsg) (hm : m ≠ .withdrawUnbonded) :
    hubExec h { e with hubBalance := x } sender funds m = hubExec h e sender funds m := by
  cases m with
  | withdrawUnbonded => exact absurd rfl hm
  | _ => rfl

/-- what a hub message other than WithdrawUnbonded sends out of the hub's account is covered by the
    funds attached to it (`hub_fund_step`, read with a balance of `prev_hub_balance` + the funds) -/
theorem hubExec_outs {h h' : HubSt} {e : HubEnv} {sender : Addr} {funds : List (Denom × Nat)} {m : HubMsg}
    {ms : List Msg} (he : e.self = hubA) (hne : m ≠ .withdrawUnbonded)
    (hp : h'.prevHubBalance = h.prevHubBalance) (hx : hubExec h e sender funds m = .ok (h', ms)) :
    ∃ pre rest, ms = pre ++ rest ∧ (∀ x ∈ pre, isLeaf x = true) ∧ (∀ x ∈ rest, isOut x = false) ∧
      hubOutAll pre ≤ fundsOf 0 funds := by
  rw [← hubExec_balance_irrelevant h e (h.prevHubBalance + fundsOf 0 funds) sender funds m hne] at hx
  obtain ⟨pre, rest, hms, hpre, hr, hle⟩ := hub_fund_step h h'
    { e with hubBalance := h.prevHubBalance + fundsOf 0 funds } sender funds m ms h.prevHubBalance he
    (Nat.le_refl _) (Nat.le_refl _) hx
  refine ⟨pre, rest, hms, hpre, hr, ?_⟩
  rw [hp] at hle
  exact Nat.le_of_add_le_add_left hle

/-- funds attached to a call of the hub arrive on its account; the hub's own calls carry none -/
theorem moveFunds_hub_in {s s1 : Sys} {sender : Addr} {call : Call} {funds : List (Denom × Nat)}
    (hmv : s.moveFunds sender hubA funds = .ok s1) (hmo : isOut (.wasm sender hubA call funds) = false) :
    s.chain.bank hubA 0 + fundsOf 0 funds ≤ s1.chain.bank hubA 0 := by
  by_cases hsd : sender = hubA
  · have hf : funds = [] := by
      simp only [isOut, hsd, beq_self_eq_true, Bool.true_and, Bool.not_eq_false'] at hmo
      simpa using hmo
    subst hf
    cases hmv
    exact Nat.le_refl _
  · exact moveFunds_bank_in sender hubA hsd funds s s1 hmv 0

/-- coins undelegated for a batch (for an unreleased batch the withdraw rates are still the rates
    applied at undelegation) -/
def batchU (x : History) : Nat := mulDec x.sAmt x.sWithdraw + mulDec x.bAmt x.bWithdraw

def isMatured (h : HubSt) (ub t i : Nat) : Bool :=
  match h.hist i with
  | some x => !x.released && decide (x.time + ub ≤ t)
  | none => false

def maturedIds (h : HubSt) (ub t : Nat) : List Nat := (List.range h.batchId).filter (isMatured h ub t)

def maturedSum (h : HubSt) (ub t : Nat) : Nat := ((maturedIds h ub t).map (fun i => batchU (h.histOr i))).sum

/-- amount in the unbonding queue that completes exactly at `c` -/
def qAt (q : List (Addr × Nat × Nat)) (c : Nat) : Nat := ((q.filter (fun e => e.2.2 = c)).map (·.2.1)).sum

theorem isMatured_iff (h : HubSt) (ub t i : Nat) :
    isMatured h ub t i = true ↔ ∃ x, h.hist i = some x ∧ x.released = false ∧ x.time + ub ≤ t := by
  unfold isMatured
  cases h.hist i with
  | none => exact ⟨nofun, fun ⟨_, hx, _⟩ => nomatch hx⟩
  | some x =>
    simp only [Bool.and_eq_true, Bool.not_eq_true', decide_eq_true_eq]
    exact ⟨fun hx => ⟨x, rfl, hx⟩, fun ⟨_, hy, hx⟩ => by cases hy; exact hx⟩

theorem qAt_cons (e : Addr × Nat × Nat) (q : List (Addr × Nat × Nat)) (c : Nat) :
    qAt (e :: q) c = (if e.2.2 = c then e.2.1 else 0) + qAt q c := by
  unfold qAt
  rw [List.filter_cons]
  by_cases h : e.2.2 = c <;> simp [h]

theorem qAt_append (q : List (Addr × Nat × Nat)) (e : Addr × Nat × Nat) (c : Nat) :
    qAt (q ++ [e]) c = qAt q c + (if e.2.2 = c then e.2.1 else 0) := by
  unfold qAt
  rw [List.filter_append, List.map_append, List.sum_append]
  by_cases h : e.2.2 = c <;> simp [h]

theorem qAt_mono_append (q : List (Addr × Nat × Nat)) (e : Addr × Nat × Nat) (c : Nat) :
    qAt q c ≤ qAt (q ++ [e]) c := by rw [qAt_append]; omega

theorem undelegatedBy_append (a b : List Msg) : undelegatedBy (a ++ b) = undelegatedBy a + undelegatedBy b := by
  induction a with
  | nil => simp [undelegatedBy]
  | cons m a ih =>
    cases m <;> simp only [List.cons_append, undelegatedBy, ih] <;> omega

theorem sumOn_ite_eq (a v : Nat) : ∀ cs : List Nat, cs.Nodup →
    sumOn cs (fun c => if a = c then v else 0) = if a ∈ cs then v else 0
  | [], _ => rfl
  | c :: cs, hn => by
    have hn' := List.nodup_cons.mp hn
    rw [sumOn_cons, sumOn_ite_eq a v cs hn'.2]
    by_cases h : a = c
    · subst h; simp [hn'.1]
    · simp [h]

/-- distinct completion times select disjoint parts of the unbonding queue -/
theorem qAt_sum_le (q : List (Addr × Nat × Nat)) (t : Nat) (cs : List Nat) (hnd : cs.Nodup)
    (hle : ∀ c ∈ cs, c ≤ t) : sumOn cs (qAt q) ≤ sumOn (q.filter (fun e => e.2.2 ≤ t)) (·.2.1) := by
  induction q with
  | nil => exact (sumOn_zero cs _ fun _ _ => rfl).le
  | cons e q ih =>
    rw [sumOn_congr cs _ _ fun c _ => qAt_cons e q c, sumOn_add, sumOn_ite_eq _ _ cs hnd, List.filter_cons]
    by_cases ht : e.2.2 ≤ t
    · simp only [ht, decide_true, ↓reduceIte, sumOn_cons]
      split <;> omega
    · have hm : e.2.2 ∉ cs := fun hm => ht (hle _ hm)
      simp only [ht, hm, decide_false, Bool.false_eq_true, ↓reduceIte]
      omega

theorem sumOn_filter_le (l : List Nat) (p q r : Nat → Bool) (f : Nat → Nat)
    (h : ∀ i ∈ l, p i = true → q i = true ∨ r i = true) :
    sumOn (l.filter p) f ≤ sumOn (l.filter q) f + sumOn (l.filter r) f := by
  induction l with
  | nil => exact Nat.le_refl _
  | cons i l ih =>
    have tl := ih fun j hj => h j (List.mem_cons_of_mem _ hj)
    have hd := h i (List.mem_cons_self ..)
    simp only [List.filter_cons]
    cases hp : p i <;> cases hq : q i <;> cases hr : r i <;>
      simp only [hp, hq, hr, Bool.false_eq_true, or_self, imp_false, not_true_eq_false, ↓reduceIte, sumOn_cons] at hd ⊢ <;>
      omega

theorem sumOn_le_of_nodup_subset (f : Nat → Nat) : ∀ (l1 l2 : List Nat), l1.Nodup → (∀ i ∈ l1, i ∈ l2) →
    sumOn l1 f ≤ sumOn l2 f
  | [], _, _, _ => Nat.zero_le _
  | a :: l1, l2, hn, hs => by
    have hn' := List.nodup_cons.mp hn
    -- take `a` out of `l2`
    have p := (List.perm_cons_erase (hs a (List.mem_cons_self ..))).map f
    have r := sumOn_le_of_nodup_subset f l1 (l2.erase a) hn'.2 fun i hi =>
      (List.mem_erase_of_ne fun e : i = a => hn'.1 (e ▸ hi)).mpr (hs i (List.mem_cons_of_mem _ hi))
    unfold sumOn at r ⊢
    rw [p.sum_nat, List.map_cons, List.sum_cons, List.map_cons, List.sum_cons]
    omega

structure ArriveQ (s : Sys) (q : List Msg) : Prop where
  ubpos : 0 < s.chain.unbondingTime
  fresh : ∀ e ∈ s.chain.unbondingQ, s.chain.time < e.2.2
  lastUnb : s.hub.lastUnbondedTime ≤ s.chain.time
  cover : ∀ i x, s.hub.hist i = some x → x.released = false →
    s.chain.time < x.time + s.chain.unbondingTime →
    batchU x ≤ qAt s.chain.unbondingQ (x.time + s.chain.unbondingTime) +
      (if x.time = s.chain.time then undelegatedBy q else 0)
  split : ∃ A rest, q = A ++ rest ∧ (∀ x ∈ A, isLeaf x = true) ∧ (∀ x ∈ rest, isOut x = false) ∧
    s.hub.prevHubBalance + hubOutAll A + maturedSum s.hub s.chain.unbondingTime s.chain.time ≤ s.chain.bank hubA 0

theorem ArriveQ.drained {s : Sys} (inv : ArriveQ s []) :
    s.hub.prevHubBalance + maturedSum s.hub s.chain.unbondingTime s.chain.time ≤ s.chain.bank hubA 0 :=
  pending_nil inv.split

theorem maturedSum_congr (h h' : HubSt) (ub t : Nat) (hh : h'.hist = h.hist) (hb : h'.batchId = h.batchId) :
    maturedSum h' ub t = maturedSum h ub t := by
  unfold maturedSum maturedIds isMatured histOr
  rw [hh, hb]

/-- closing the open batch at time `now` does not change what has matured (the chain pays it
    `ub > 0` later) -/
theorem maturedSum_undelegation (h h' : HubSt) (e : HubEnv) (ms : List Msg) (ub : Nat) (hub : 0 < ub)
    (hx : h.processUndelegations e = .ok (h', ms)) :
    maturedSum h' ub e.now = maturedSum h ub e.now := by
  obtain ⟨_, _, _, _, _, _, _, _, _, bid, _, hh, _⟩ := processUndelegations_spec h h' e ms hx
  have hne : ∀ i ∈ List.range h.batchId, i ≠ h.batchId := fun i hi => Nat.ne_of_lt (List.mem_range.mp hi)
  have hnew : isMatured h' ub e.now h.batchId = false := by
    unfold isMatured; rw [hh, upd_same]
    simp only [Bool.not_false, Bool.true_and, decide_eq_false_iff_not]
    omega
  unfold maturedSum maturedIds
  rw [bid, List.range_succ, List.filter_append, List.filter_cons, hnew, if_neg nofun, List.filter_nil,
    List.append_nil,
    List.filter_congr (q := isMatured h ub e.now) fun i hi => by unfold isMatured; rw [hh, upd_other _ _ _ _ (hne i hi)]]
  exact congrArg List.sum (List.map_congr_left fun i hi => by
    unfold histOr; rw [hh, upd_other _ _ _ _ (hne i (List.mem_filter.mp hi).1)])

theorem maturedSum_released (h1 : HubSt) (ub t cutoff : Nat) (hc : t ≤ cutoff + ub)
    (hrel : ∀ i x1, h1.hist i = some x1 → x1.released = false → x1.time > cutoff) :
    maturedSum h1 ub t = 0 := by
  unfold maturedSum maturedIds
  rw [List.filter_eq_nil_iff.mpr]
  · rfl
  · intro i _ hm
    obtain ⟨x, hx, hr, ht⟩ := (isMatured_iff h1 ub t i).mp hm
    have := hrel i x hx hr
    omega

/-- Every message the hub does not handle. `hQ`: the unbonding queue gains exactly what an Undelegate
    names; `hb`: the hub's account loses at most what the message names. -/
theorem ArriveQ.carry {s s' : Sys} {m : Msg} {rest0 subs : List Msg} (inv : ArriveQ s (m :: rest0))
    (hh : s'.hub = s.hub) (ht : s'.chain.time = s.chain.time)
    (hu : s'.chain.unbondingTime = s.chain.unbondingTime)
    (hQ : s'.chain.unbondingQ = s.chain.unbondingQ ∧ undelegatedBy [m] = 0 ∨
      ∃ v, s'.chain.unbondingQ =
        s.chain.unbondingQ ++ [(v, undelegatedBy [m], s.chain.time + s.chain.unbondingTime)])
    (hb : s.chain.bank hubA 0 ≤ s'.chain.bank hubA 0 + hubOut m)
    (hsub : subs = [] ∨ isLeaf m = false ∧ ∀ x ∈ subs, isOut x = false) :
    ArriveQ s' (subs ++ rest0) := by
  have hfresh : ∀ e ∈ s'.chain.unbondingQ, s.chain.time < e.2.2 := by
    rcases hQ with ⟨hQ, _⟩ | ⟨v, hQ⟩ <;> rw [hQ]
    · exact inv.fresh
    · intro e he
      rcases List.mem_append.mp he with h | h
      · exact inv.fresh e h
      · cases List.mem_singleton.mp h
        exact Nat.lt_add_of_pos_right inv.ubpos
  have hq : ∀ c, qAt s.chain.unbondingQ c +
      (if s.chain.time + s.chain.unbondingTime = c then undelegatedBy [m] else 0) ≤ qAt s'.chain.unbondingQ c := by
    intro c
    rcases hQ with ⟨hQ, h0⟩ | ⟨v, hQ⟩ <;> rw [hQ]
    · rw [h0, ite_self]; exact Nat.le_refl _
    · rw [qAt_append]
  refine ⟨by rw [hu]; exact inv.ubpos, by rw [ht]; exact hfresh, by rw [hh, ht]; exact inv.lastUnb, ?_, ?_⟩
  · intro i x hxi hr hlt
    rw [hh] at hxi
    rw [hu, ht] at hlt ⊢
    have c := inv.cover i x hxi hr hlt
    have q := hq (x.time + s.chain.unbondingTime)
    rw [show m :: rest0 = [m] ++ rest0 from rfl, undelegatedBy_append] at c
    rw [undelegatedBy_append]
    by_cases htm : x.time = s.chain.time
    · rw [if_pos htm] at c ⊢; rw [if_pos (by omega)] at q; omega
    · rw [if_neg htm] at c ⊢; omega
  · obtain ⟨A, rest, hq', hA, hrest, hle⟩ := inv.split
    rw [hh, hu, ht]
    cases A with
    | nil =>
      obtain rfl : rest = m :: rest0 := hq'.symm
      have := hubOut_noOut m (hrest m (List.mem_cons_self ..))
      refine ⟨[], subs ++ rest0, rfl, (fun _ h => nomatch h), fun x hx => ?_, by omega⟩
      rcases hsub with rfl | ⟨_, hsub⟩
      · exact hrest x (List.mem_cons_of_mem _ hx)
      · exact (List.mem_append.mp hx).elim (hsub x) fun h => hrest x (List.mem_cons_of_mem _ h)
    | cons p A' =>
      obtain ⟨rfl, rfl⟩ : m = p ∧ rest0 = A' ++ rest := by simpa using hq'
      obtain rfl : subs = [] := hsub.elim id fun h => by rw [hA m (List.mem_cons_self ..)] at h; cases h.1
      refine ⟨A', rest, rfl, fun x hx => hA x (List.mem_cons_of_mem _ hx), hrest, ?_⟩
      simp only [hubOutAll, List.map_cons, List.sum_cons] at hle ⊢
      omega

/-- `he2`: when the message is a WithdrawUnbonded the hub's unbonding period equals the chain's
    unbonding time (E2). -/
theorem ArriveQ.step (s s' : Sys) (m : Msg) (rest0 subs : List Msg) (inv : ArriveQ s (m :: rest0))
    (hi : HistInv s.hub) (hl : s.hub.legacy = [])
    (he2 : ∀ sender funds, m = .wasm sender hubA (.hub .withdrawUnbonded) funds → s.hub.unbonding = s.chain.unbondingTime)
    (hx : s.handle m = .ok (s', subs)) : ArriveQ s' (subs ++ rest0) := by
  cases m with
  | bankSend src dst d amt =>
    obtain ⟨hm, rfl⟩ := handle_bankSend hx
    have hb := bankMove_bank s s' src dst d amt hm hubA 0
    obtain ⟨_, _, rfl⟩ := bankMove_ok hm
    refine inv.carry rfl rfl rfl (.inl ⟨rfl, rfl⟩) ?_ (.inl rfl)
    simpa only [hubOut, eq_comm, ge_iff_le] using hb
  | delegate who v amt =>
    obtain ⟨rfl, _, _, _, rfl, rfl⟩ := handle_delegate hx
    refine inv.carry rfl rfl rfl (.inl ⟨rfl, rfl⟩) ?_ (.inl rfl)
    simp only [hubOut, if_true, upd_same]
    omega
  | undelegate who v amt =>
    obtain ⟨_, _, _, _, rfl, rfl⟩ := handle_undelegate hx
    exact inv.carry rfl rfl rfl (.inr ⟨v, rfl⟩) (Nat.le_add_right _ _) (.inl rfl)
  | redelegate who src dst amt =>
    obtain ⟨_, _, _, _, _, _, rfl, rfl⟩ := handle_redelegate hx
    exact inv.carry rfl rfl rfl (.inl ⟨rfl, rfl⟩) (Nat.le_add_right _ _) (.inl rfl)
  | withdrawReward who v =>
    obtain ⟨_, _, rfl, bank, _, rfl, hbk, _⟩ := handle_withdrawReward hx
    refine inv.carry rfl rfl rfl (.inl ⟨rfl, rfl⟩) ?_ (.inl rfl)
    show _ ≤ bank hubA 0 + _
    rw [hbk hubA 0]
    split <;> omega
  | setWithdrawAddr who a =>
    obtain ⟨_, rfl, rfl⟩ := handle_setWithdrawAddr hx
    exact inv.carry rfl rfl rfl (.inl ⟨rfl, rfl⟩) (Nat.le_add_right _ _) (.inl rfl)
  | wasm sender target call funds =>
    by_cases htg : target = hubA
    swap
    · -- another contract, or a stub: the hub's state stays, the chain is as the attached funds left it
      have hhub := handle_hub_same hx fun _ _ _ e => htg (by cases e; rfl)
      obtain ⟨s1, hmv, hch⟩ := handle_wasm_chain_eq s s' sender target call funds subs hx
      have hb := moveFunds_bank sender target funds s s1 hmv hubA 0
      obtain ⟨_, hs1⟩ := moveFunds_chain hmv
      refine inv.carry hhub (by rw [hch, hs1]) (by rw [hch, hs1]) (.inl ⟨by rw [hch, hs1], rfl⟩) ?_
        (.inr ⟨rfl, sentBy_noOut target htg subs ((handle_sentBy s s' _ subs hx).1 _ _ _ _ rfl)⟩)
      rw [hch]
      simpa only [hubOut, eq_comm, ge_iff_le] using hb
    subst htg
    obtain ⟨s1, hm', h', rfl, hmv, hx', rfl⟩ := handle_hub hx
    obtain ⟨hmo, hr0, hB⟩ := (pending_cons inv.split).resolve_left fun h => nomatch h.1
    have hB1 := moveFunds_hub_in hmv hmo
    obtain ⟨bank1, rfl⟩ := moveFunds_chain hmv
    -- the handler's view: block time, and the balance after the attached funds arrived
    generalize he : Sys.hubEnv { s with chain := { s.chain with bank := bank1 } } = e at hx'
    have hnow : e.now = s.chain.time := by rw [← he]; rfl
    have hbal : e.hubBalance = bank1 hubA 0 := by rw [← he]; rfl
    have hself : e.self = hubA := by rw [← he]; rfl
    change s.chain.bank hubA 0 + fundsOf 0 funds ≤ bank1 hubA 0 at hB1
    change s.hub.prevHubBalance + 0 + maturedSum s.hub s.chain.unbondingTime s.chain.time ≤ s.chain.bank hubA 0 at hB
    -- what was covered stays covered: the queue only gains Undelegate messages
    have old : ∀ i x, s.hub.hist i = some x → x.released = false →
        s.chain.time < x.time + s.chain.unbondingTime →
        batchU x ≤ qAt s.chain.unbondingQ (x.time + s.chain.unbondingTime) +
          (if x.time = s.chain.time then undelegatedBy (subs ++ rest0) else 0) := by
      intro i x hxi hr hlt
      have c : batchU x ≤ _ + (if x.time = s.chain.time then undelegatedBy rest0 else 0) :=
        inv.cover i x hxi hr hlt
      rw [undelegatedBy_append]
      by_cases htm : x.time = s.chain.time
      · rw [if_pos htm] at c ⊢; omega
      · rw [if_neg htm] at c ⊢; exact c
    -- a message that leaves `prev_hub_balance` alone and pays its outflows from the attached funds
    have fin : hm' ≠ .withdrawUnbonded → h'.prevHubBalance = s.hub.prevHubBalance →
        h'.lastUnbondedTime ≤ s.chain.time →
        maturedSum h' s.chain.unbondingTime s.chain.time = maturedSum s.hub s.chain.unbondingTime s.chain.time →
        (∀ i x, h'.hist i = some x → x.released = false → s.chain.time < x.time + s.chain.unbondingTime →
          batchU x ≤ qAt s.chain.unbondingQ (x.time + s.chain.unbondingTime) +
            (if x.time = s.chain.time then undelegatedBy (subs ++ rest0) else 0)) →
        ArriveQ { { s with chain := { s.chain with bank := bank1 } } with hub := h' } (subs ++ rest0) := by
      intro hne hprev hlu hM hcov
      obtain ⟨pre, rest', hms, hp, hr, hout⟩ := hubExec_outs hself hne hprev hx'
      refine ⟨inv.ubpos, inv.fresh, hlu, hcov, pre, rest' ++ rest0, by rw [hms, List.append_assoc], hp,
        fun x hx => (List.mem_append.mp hx).elim (hr x) (hr0 x), ?_⟩
      show h'.prevHubBalance + hubOutAll pre + maturedSum h' s.chain.unbondingTime s.chain.time ≤ bank1 hubA 0
      omega
    cases hubExec_classify _ h' e sender funds hm' subs hl hx' with
    | quiet q hne =>
      exact fin hne q.prev (by rw [q.lastUnb]; exact inv.lastUnb)
        (maturedSum_congr _ _ _ _ q.keeps.same.hist q.keeps.same.batchId)
        fun i x hxi => old i x (q.keeps.same.hist ▸ hxi)
    | unbond st h0 hne hst sh _ hcase =>
      have sb := (actualState_spec _ st e hst).1
      have hh0 : h0.hist = s.hub.hist := sh.hist.trans sb.hist
      have hb0 : h0.batchId = s.hub.batchId := sh.batchId.trans sb.batchId
      have hp0 : h0.prevHubBalance = s.hub.prevHubBalance := sh.prev.trans sb.prev
      have hu0 : h0.lastUnbondedTime = s.hub.lastUnbondedTime := sh.lastUnb.trans sb.lastUnb
      rcases hcase with ⟨_, um, last, hp, hms, hlast⟩ | ⟨rfl, _⟩
      · -- the open batch is closed: a new unreleased entry with time = now, covered by the queued Undelegates
        obtain ⟨hpick, _, _, _, _, _, _, _, _, _, lu, hhist, _, _, _, pv, _⟩ := processUndelegations_spec h0 h' e um hp
        refine fin hne (pv.trans hp0) (by rw [lu, hnow]) ?_ fun i x hxi hr hlt => ?_
        · rw [← hnow]
          exact (maturedSum_undelegation h0 h' e um _ inv.ubpos hp).trans (maturedSum_congr _ _ _ _ hh0 hb0)
        · rw [hhist] at hxi
          by_cases hib : i = h0.batchId
          · subst hib
            rw [upd_same, hnow] at hxi
            cases hxi
            rw [if_pos rfl, hms, undelegatedBy_append, undelegatedBy_append, C03_undelegate_messages_sum _ _ _ hpick]
            show mulDec h0.reqS h0.sRate + mulDec h0.reqB h0.bRate ≤ _
            omega
          · rw [upd_other _ _ _ _ hib, hh0] at hxi
            exact old i x hxi hr hlt
      · exact fin hne hp0 (by rw [hu0]; exact inv.lastUnb) (maturedSum_congr _ _ _ _ hh0 hb0)
          fun i x hxi => old i x (hh0 ▸ hxi)
    | withdraw hwm _ hw =>
      subst hwm
      obtain ⟨hunb, h1, hpw, _, hle1, rfl, rfl⟩ := withdraw_spec _ _ e sender subs hw
      rw [hnow] at hunb hpw
      rw [hbal] at hle1
      have e2 := he2 sender funds rfl
      have rc := release_complete _ h1 _ _ hi hpw
      have d := delWait_fold_shape (h1.finished sender).2 sender h1
      have sp := processWithdrawRate_spec _ h1 _ _ hpw
      refine ⟨inv.ubpos, inv.fresh, ?_, ?_, [_], rest0, rfl, ?_, hr0, ?_⟩
      · show (List.foldl _ h1 _).lastUnbondedTime ≤ s.chain.time
        rw [d.2.2.2, (processWithdrawRate_lastUnb _ _ _ _ hpw).1]
        exact inv.lastUnb
      · -- unreleased entries are exactly as before
        intro i x hxi hr hlt
        replace hxi : (List.foldl _ h1 _).hist i = some x := hxi
        rw [d.1] at hxi
        cases hxo : s.hub.hist i with
        | none => rw [(sp.2.2.2.2.2.2.2.2.2.2.2 i).1 hxo] at hxi; cases hxi
        | some xo =>
          obtain ⟨x', hx'', _, _, _, _, _, _, _, hkeep⟩ := (sp.2.2.2.2.2.2.2.2.2.2.2 i).2 xo hxo
          rw [hx''] at hxi
          cases hxi
          cases hkeep hr
          exact old i x hxo hr hlt
      · intro x hx
        cases List.mem_singleton.mp hx
        rw [hself]; rfl
      · -- the release has processed everything matured, and the payout comes out of the balance it saw
        have hm0 : maturedSum h1 s.chain.unbondingTime s.chain.time = 0 :=
          maturedSum_released h1 _ _ (s.chain.time - s.hub.unbonding) (by omega) rc.2.2
        show (e.hubBalance - (h1.finished sender).1) + hubOutAll [Msg.bankSend e.self sender 0 (h1.finished sender).1] +
          maturedSum (List.foldl _ h1 _) s.chain.unbondingTime s.chain.time ≤ bank1 hubA 0
        rw [maturedSum_congr h1 _ _ _ d.1 d.2.1, hm0, hself, hbal]
        simp only [hubOutAll, List.map_cons, List.map_nil, List.sum_cons, List.sum_nil, hubOut, and_self, if_true]
        omega

/-- when block time moves from `t` to `t'`, what newly counts as matured is paid by the unbonding
    queue entries that complete in between -/
theorem maturedSum_advance (h : HubSt) (ub t t' : Nat) (q : List (Addr × Nat × Nat))
    (hi : HistInv h)
    (cover : ∀ i x, h.hist i = some x → x.released = false → t < x.time + ub → batchU x ≤ qAt q (x.time + ub)) :
    maturedSum h ub t' ≤ maturedSum h ub t + sumOn (q.filter (fun e => e.2.2 ≤ t')) (·.2.1) := by
  -- the newly matured ids
  generalize hnew : (List.range h.batchId).filter (fun i => isMatured h ub t' i && !isMatured h ub t i) = new
  have facts : ∀ i ∈ new, ∃ x, h.hist i = some x ∧ h.histOr i = x ∧ x.released = false ∧
      t < x.time + ub ∧ x.time + ub ≤ t' := by
    intro i hi'
    rw [← hnew] at hi'
    have hm := (List.mem_filter.mp hi').2
    simp only [Bool.and_eq_true, Bool.not_eq_true'] at hm
    obtain ⟨x, hx, hr, hle⟩ := (isMatured_iff h ub t' i).mp hm.1
    refine ⟨x, hx, by simp [histOr, hx], hr, Nat.lt_of_not_le fun hc => ?_, hle⟩
    rw [(isMatured_iff h ub t i).mpr ⟨x, hx, hr, hc⟩] at hm
    exact nomatch hm.2
  have hnd : new.Nodup := hnew ▸ List.Pairwise.sublist List.filter_sublist List.nodup_range
  have split := sumOn_filter_le (List.range h.batchId) (isMatured h ub t') (isMatured h ub t)
    (fun i => isMatured h ub t' i && !isMatured h ub t i) (fun i => batchU (h.histOr i)) fun i _ hp => by
      cases hq : isMatured h ub t i
      · exact Or.inr (by rw [hp]; rfl)
      · exact Or.inl rfl
  rw [hnew] at split
  refine Nat.le_trans split (Nat.add_le_add_left ?_ _)
  -- each is covered by the queue entries completing exactly at its maturity, and these times differ
  refine Nat.le_trans (sumOn_le new _ (fun i => qAt q ((h.histOr i).time + ub)) fun i hi' => ?_) ?_
  · obtain ⟨x, hx, e, hr, hlt, _⟩ := facts i hi'
    rw [e]; exact cover i x hx hr hlt
  refine Nat.le_trans (Nat.le_of_eq ?_) (qAt_sum_le q t' (new.map fun i => (h.histOr i).time + ub) ?_ ?_)
  · unfold sumOn; rw [List.map_map]; rfl
  · refine List.pairwise_map.mpr (hnd.imp_of_mem fun {i j} hi' hj' hne he => ?_)
    obtain ⟨x, hx, ex, _⟩ := facts i hi'
    obtain ⟨y, hy, ey, _⟩ := facts j hj'
    rw [ex, ey] at he
    rcases Nat.lt_or_gt_of_ne hne with hlt | hlt
    · have := hi.mono i j x y hx hy hlt; omega
    · have := hi.mono j i y x hy hx hlt; omega
  · intro c hc
    obtain ⟨i, hi', rfl⟩ := List.mem_map.mp hc
    obtain ⟨x, _, e, _, _, hle⟩ := facts i hi'
    rw [e]; exact hle

/-- environment events other than slashing of the unbonding stake (and the test-only legacy
    seeding) keep the invariant between transactions -/
theorem ArriveQ.env (s : Sys) (e : EnvOp) (inv : ArriveQ s []) (hi : HistInv s.hub)
    (hns : ∀ v n d, e ≠ .slashUnbonding v n d) (hnl : ∀ u b a, e ≠ .seedLegacy u b a) :
    ArriveQ (s.env e) [] := by
  have hB := inv.drained
  have mk : ∀ (s' : Sys), s'.hub = s.hub → s'.chain.unbondingTime = s.chain.unbondingTime →
      s'.chain.time = s.chain.time → s'.chain.unbondingQ = s.chain.unbondingQ →
      s.chain.bank hubA 0 ≤ s'.chain.bank hubA 0 → ArriveQ s' [] := by
    intro s' hh hu ht hQ hb
    refine ⟨by rw [hu]; exact inv.ubpos, by rw [hQ, ht]; exact inv.fresh, by rw [hh, ht]; exact inv.lastUnb, ?_, ?_⟩
    · intro i x hx hr hlt
      rw [hh] at hx; rw [hu, ht] at hlt ⊢; rw [hQ]
      exact inv.cover i x hx hr hlt
    · refine ⟨[], [], rfl, (fun _ h => nomatch h), (fun _ h => nomatch h), ?_⟩
      rw [hh, hu, ht]; simp only [hubOutAll, List.map_nil, List.sum_nil, Nat.add_zero]; omega
  cases e with
  | slashUnbonding v n d => exact absurd rfl (hns v n d)
  | seedLegacy u b a => exact absurd rfl (hnl u b a)
  | slash v n d =>
    simp only [Sys.env]
    split
    · exact mk s rfl rfl rfl rfl (Nat.le_refl _)
    · exact mk _ rfl rfl rfl rfl (Nat.le_refl _)
  | accrue _ _ _ | blockRedelegation _ _ | blockUndelegation _ _ | setInactive _ _ | oracle _ _ | swap _ _ =>
    exact mk _ rfl rfl rfl rfl (Nat.le_refl _)
  | donate a d amt =>
    apply mk (s.env (.donate a d amt)) rfl rfl rfl rfl
    show s.chain.bank hubA 0 ≤ (s.setBank a d (s.chain.bank a d + amt)).chain.bank hubA 0
    simp only [Sys.setBank, upd]
    by_cases h1 : hubA = a
    · subst h1
      by_cases h2 : (0 : Denom) = d
      · subst h2; simp
      · simp [h2]
    · simp [h1]
  | advance dt =>
    have hcov : ∀ i x, s.hub.hist i = some x → x.released = false →
        s.chain.time < x.time + s.chain.unbondingTime →
        batchU x ≤ qAt s.chain.unbondingQ (x.time + s.chain.unbondingTime) := by
      intro i x hx hr hlt
      have := inv.cover i x hx hr hlt
      simp only [undelegatedBy] at this
      split at this <;> omega
    have hadv := maturedSum_advance s.hub s.chain.unbondingTime s.chain.time (s.chain.time + dt)
      s.chain.unbondingQ hi hcov
    refine ⟨inv.ubpos, ?_, ?_, ?_, ?_⟩
    · intro e he
      simp only [Sys.env] at he ⊢
      have := (List.mem_filter.mp he).2
      simp only [Bool.not_eq_eq_eq_not, Bool.not_true, decide_eq_false_iff_not] at this
      omega
    · show s.hub.lastUnbondedTime ≤ s.chain.time + dt
      have := inv.lastUnb; omega
    · intro i x hx hr hlt
      have hx' : s.hub.hist i = some x := hx
      have hlt' : s.chain.time + dt < x.time + s.chain.unbondingTime := hlt
      have c := hcov i x hx' hr (by omega)
      show batchU x ≤ qAt (s.chain.unbondingQ.filter (fun e => !(decide (e.2.2 ≤ s.chain.time + dt))))
        (x.time + s.chain.unbondingTime) + _
      have same : qAt (s.chain.unbondingQ.filter (fun e => !(decide (e.2.2 ≤ s.chain.time + dt))))
          (x.time + s.chain.unbondingTime) = qAt s.chain.unbondingQ (x.time + s.chain.unbondingTime) := by
        unfold qAt
        rw [List.filter_filter]
        congr 2
        apply List.filter_congr
        intro e _
        by_cases he : e.2.2 = x.time + s.chain.unbondingTime
        · simp [he]; omega
        · simp [he]
      rw [same]; omega
    · refine ⟨[], [], rfl, (fun _ h => nomatch h), (fun _ h => nomatch h), ?_⟩
      show s.hub.prevHubBalance + hubOutAll [] + maturedSum s.hub s.chain.unbondingTime (s.chain.time + dt) ≤
        (s.setBank hubA 0 (s.chain.bank hubA 0 + sumOn (s.chain.unbondingQ.filter (fun e => e.2.2 ≤ s.chain.time + dt)) (fun e => e.2.1))).chain.bank hubA 0
      simp only [Sys.setBank, upd_same, hubOutAll, List.map_nil, List.sum_nil, Nat.add_zero]
      omega

end Krp
