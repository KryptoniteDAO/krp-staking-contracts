/-
  RateFlow.lean — the bookkeeping behind the composed C04 theorem: what is still in flight.

  While a transaction runs, the hub has already booked what its handler did, but the token Mint /
  Burn messages it emitted are still in the queue. `mintsTo t q` and `burnsBy t q` are the amounts
  those pending messages will add to / remove from the supply of token `t`; the *effective* claims
  on a pool are `supply + mintsTo − burnsBy + requests`. `TR r B S R mints burns` says that `r` is a
  true ratio of the effective pool: `r·(S + mints + R) ≤ B·10^18 + r·burns` (written without
  subtraction).
-/
import Krp.Lemmas.Unsent
import Krp.Lemmas.Still
namespace Krp
open HubSt

def mintsTo (t : Addr) : List Msg → Nat
  | [] => 0
  | m :: q =>
    (match m with
     | .wasm _ t' (.tok (.mint _ a)) _ => if t' = t then a else 0
     | _ => 0) + mintsTo t q

/-- only the hub's own Burn messages: the tokens accept a Burn from nobody else (`core_burn`) -/
def burnsBy (t : Addr) : List Msg → Nat
  | [] => 0
  | m :: q =>
    (match m with
     | .wasm snd t' (.tok (.burn a)) _ => if snd = hubA ∧ t' = t then a else 0
     | _ => 0) + burnsBy t q

theorem mintsTo_append (t : Addr) (x y : List Msg) : mintsTo t (x ++ y) = mintsTo t x + mintsTo t y := by
  induction x with
  | nil => exact (Nat.zero_add _).symm
  | cons m ms ih => simp only [List.cons_append, mintsTo, ih, Nat.add_assoc]

theorem burnsBy_append (t : Addr) (x y : List Msg) : burnsBy t (x ++ y) = burnsBy t x + burnsBy t y := by
  induction x with
  | nil => exact (Nat.zero_add _).symm
  | cons m ms ih => simp only [List.cons_append, burnsBy, ih, Nat.add_assoc]

theorem mintsTo_of_noMint (t : Addr) (q : List Msg) (h : NoMint q) : mintsTo t q = 0 := by
  induction q with
  | nil => rfl
  | cons m ms ih =>
    obtain ⟨h1, h2⟩ := List.forall_mem_cons.mp h
    simp only [mintsTo, ih h2, Nat.add_zero]
    split
    · cases h1
    · rfl

theorem burnsBy_of_sentBy (t a : Addr) (q : List Msg) (h : SentBy a q) (ha : a ≠ hubA) : burnsBy t q = 0 := by
  induction q with
  | nil => rfl
  | cons m ms ih =>
    obtain ⟨h1, h2⟩ := List.forall_mem_cons.mp h
    simp only [burnsBy, ih h2, Nat.add_zero]
    split
    · exact if_neg (fun hh => ha (h1.symm.trans hh.1))
    · rfl

def quietTok : TokMsg → Bool
  | .mint _ _ => false
  | .burn _ => false
  | _ => true

theorem flows_cons (t : Addr) (m : Msg) (q : List Msg)
    (h : ∀ a tm d, m = .wasm a t (.tok tm) d → quietTok tm = true) :
    mintsTo t (m :: q) = mintsTo t q ∧ burnsBy t (m :: q) = burnsBy t q := by
  constructor
  · simp only [mintsTo]
    split
    · rw [if_neg (fun ht => by subst ht; cases h _ _ _ rfl), Nat.zero_add]
    · rw [Nat.zero_add]
  · simp only [burnsBy]
    split
    · rw [if_neg (fun ht => by cases ht.2; cases h _ _ _ rfl), Nat.zero_add]
    · rw [Nat.zero_add]

theorem flows_quiet (t : Addr) (q : List Msg)
    (h : ∀ m ∈ q, ∀ a tm d, m = .wasm a t (.tok tm) d → quietTok tm = true) :
    mintsTo t q = 0 ∧ burnsBy t q = 0 := by
  induction q with
  | nil => exact ⟨rfl, rfl⟩
  | cons m q ih =>
    obtain ⟨hm, hq⟩ := List.forall_mem_cons.mp h
    rw [(flows_cons t m q hm).1, (flows_cons t m q hm).2]
    exact ih hq

theorem flows_of_still (t : Addr) (q : List Msg) (h : AllStill q) : mintsTo t q = 0 ∧ burnsBy t q = 0 :=
  flows_quiet t q (fun m hm a tm d he => by subst he; cases tm <;> first | rfl | cases h _ hm)

theorem flows_of_plain (t : Addr) (q : List Msg)
    (h : ∀ m ∈ q, ∀ a b c d, m ≠ .wasm a b c d) : mintsTo t q = 0 ∧ burnsBy t q = 0 :=
  flows_quiet t q (fun m hm _ _ _ he => absurd he (h m hm _ _ _ _))

def TR (r B S R : Nat) (mints burns : Nat) : Prop := r * (S + mints + R) ≤ B * D + r * burns

end Krp
