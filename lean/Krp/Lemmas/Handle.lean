/-
  Handle.lean — one message through the system: `Sys.handle` taken apart.

  The per-kind inversions `handle_bankSend` … `handle_setWithdrawAddr` for chain messages (guards,
  nothing emitted, the new state given explicitly); `handle_wasm`, then `cases` on the `Ran` it gives,
  for a contract call with unknown target: the funds move, then exactly the addressed contract runs
  on its own state; `handle_hub` … `handle_reg` when the target is known.  `handle_touch` is the same
  fact relative to the state before the attached funds moved; `handle_emits` says what is emitted, by
  shape (`Emits`, on the per-contract shapes of Lemmas/Emit).  Each is proved in an empty context,
  where taking `handle` apart is cheap; invariant proofs use these instead of unfolding `handle`
  among their own hypotheses.  `Ran.handle`, `handle_hub_call`, … go the other way: when a message
  is handled successfully.
-/
import Krp.Lemmas.Emit
namespace Krp
open Sys

theorem bankMove_ok {s s' : Sys} {src dst : Addr} {d : Denom} {amt : Nat}
    (hx : s.bankMove src dst d amt = .ok s') :
    amt ≠ 0 ∧ amt ≤ s.chain.bank src d ∧
    s' = (s.setBank src d (s.chain.bank src d - amt)).setBank dst d
      ((s.setBank src d (s.chain.bank src d - amt)).chain.bank dst d + amt) := by
  unfold Sys.bankMove at hx
  exc_split at hx
  exact ⟨‹_›, by omega, rfl⟩

theorem bankMove_chain {s s' : Sys} {src dst : Addr} {d : Denom} {amt : Nat}
    (hx : s.bankMove src dst d amt = .ok s') : ∃ bank, s' = { s with chain := { s.chain with bank := bank } } := by
  obtain ⟨_, _, rfl⟩ := bankMove_ok hx
  exact ⟨_, rfl⟩

theorem moveFunds_chain {src dst : Addr} : ∀ {l : List (Denom × Nat)} {s s' : Sys},
    s.moveFunds src dst l = .ok s' → ∃ bank, s' = { s with chain := { s.chain with bank := bank } } := by
  intro l
  induction l with
  | nil => intro s s' hx; cases hx; exact ⟨_, rfl⟩
  | cons c rest ih =>
    intro s s' hx
    simp only [Sys.moveFunds] at hx
    split at hx
    · cases hx
    · rename_i s1 h1
      obtain ⟨_, rfl⟩ := bankMove_chain h1
      obtain ⟨_, rfl⟩ := ih hx
      exact ⟨_, rfl⟩

theorem handle_bankSend {s s' : Sys} {src dst : Addr} {d : Denom} {amt : Nat} {ms : List Msg}
    (hx : s.handle (.bankSend src dst d amt) = .ok (s', ms)) :
    s.bankMove src dst d amt = .ok s' ∧ ms = [] := by
  simp only [Sys.handle] at hx
  exc_norm at hx
  exc_split at hx
  exact ⟨‹_›, rfl⟩

theorem handle_delegate {s s' : Sys} {who v : Addr} {amt : Nat} {ms : List Msg}
    (hx : s.handle (.delegate who v amt) = .ok (s', ms)) :
    who = hubA ∧ amt ≠ 0 ∧ v ∈ valUniverse ∧ amt ≤ s.chain.bank hubA 0 ∧ ms = [] ∧
    s' = { s with chain := { s.chain with
      bank := upd s.chain.bank hubA (upd (s.chain.bank hubA) 0 (s.chain.bank hubA 0 - amt)),
      deleg := upd s.chain.deleg v (s.chain.deleg v + amt),
      delegSet := upd s.chain.delegSet v true } } := by
  simp only [Sys.handle] at hx
  exc_norm at hx
  obtain ⟨hw, hx⟩ := guard_ok hx
  obtain ⟨hz, hx⟩ := guard_ok hx
  obtain ⟨hv, hx⟩ := guard_ok hx
  obtain ⟨hb, hx⟩ := guard_ok hx
  cases hx
  cases Classical.not_not.mp hw
  exact ⟨rfl, hz, List.contains_iff_mem.mp (by simpa using hv), by omega, rfl, rfl⟩

theorem handle_undelegate {s s' : Sys} {who v : Addr} {amt : Nat} {ms : List Msg}
    (hx : s.handle (.undelegate who v amt) = .ok (s', ms)) :
    who = hubA ∧ amt ≠ 0 ∧ amt ≤ s.chain.deleg v ∧ s.chain.noUndelegate v = false ∧ ms = [] ∧
    s' = { s with chain := { s.chain with
      deleg := upd s.chain.deleg v (s.chain.deleg v - amt),
      delegSet := upd s.chain.delegSet v (decide (s.chain.deleg v - amt > 0)),
      unbondingQ := s.chain.unbondingQ ++ [(v, amt, s.chain.time + s.chain.unbondingTime)] } } := by
  simp only [Sys.handle] at hx
  exc_norm at hx
  obtain ⟨hw, hx⟩ := guard_ok hx
  obtain ⟨hz, hx⟩ := guard_ok hx
  obtain ⟨hd, hx⟩ := guard_ok hx
  obtain ⟨hn, hx⟩ := guard_ok hx
  cases hx
  cases Classical.not_not.mp hw
  exact ⟨rfl, hz, by omega, by simpa using hn, rfl, rfl⟩

theorem handle_redelegate {s s' : Sys} {who src dst : Addr} {amt : Nat} {ms : List Msg}
    (hx : s.handle (.redelegate who src dst amt) = .ok (s', ms)) :
    who = hubA ∧ amt ≠ 0 ∧ dst ∈ valUniverse ∧ src ≠ dst ∧ s.chain.noRedelegate src = false ∧
    amt ≤ s.chain.deleg src ∧ ms = [] ∧
    s' = { s with chain := { s.chain with
      deleg := upd (upd s.chain.deleg src (s.chain.deleg src - amt)) dst
        (upd s.chain.deleg src (s.chain.deleg src - amt) dst + amt),
      delegSet := upd (upd s.chain.delegSet src (decide (s.chain.deleg src - amt > 0))) dst true } } := by
  simp only [Sys.handle] at hx
  exc_norm at hx
  obtain ⟨hw, hx⟩ := guard_ok hx
  obtain ⟨hz, hx⟩ := guard_ok hx
  obtain ⟨hv, hx⟩ := guard_ok hx
  obtain ⟨hsd, hx⟩ := guard_ok hx
  obtain ⟨hn, hx⟩ := guard_ok hx
  obtain ⟨hd, hx⟩ := guard_ok hx
  cases hx
  cases Classical.not_not.mp hw
  exact ⟨rfl, hz, List.contains_iff_mem.mp (by simpa using hv), hsd, by simpa using hn, by omega, rfl, rfl⟩

theorem handle_withdrawReward {s s' : Sys} {who v : Addr} {ms : List Msg}
    (hx : s.handle (.withdrawReward who v) = .ok (s', ms)) :
    who = hubA ∧ s.chain.delegSet v = true ∧ ms = [] ∧
    ∃ bank pending, s' = { s with chain := { s.chain with bank := bank, pending := pending } } ∧
      (∀ a d, bank a d = if a = s.chain.withdrawAddr ∧ d ∈ ([0, 1, 2] : List Denom)
        then s.chain.bank a d + s.chain.pending v d else s.chain.bank a d) ∧
      (∀ w d, pending w d = if w = v ∧ d ∈ ([0, 1, 2] : List Denom) then 0 else s.chain.pending w d) := by
  simp only [Sys.handle] at hx
  exc_norm at hx
  obtain ⟨hw, hx⟩ := guard_ok hx
  obtain ⟨hd, hx⟩ := guard_ok hx
  cases hx
  refine ⟨Classical.not_not.mp hw, by simpa using hd, rfl, ?_⟩
  -- the fold over the three denoms written out first: `rfl` against the folded term is slow
  simp only [List.foldl_cons, List.foldl_nil, Sys.setBank]
  refine ⟨_, _, rfl, fun a d => ?_, fun w d => ?_⟩
  · simp only [upd, List.mem_cons, List.mem_nil_iff, or_false]
    by_cases ha : a = s.chain.withdrawAddr
    · subst ha
      by_cases h0 : d = 0 <;> by_cases h1 : d = 1 <;> by_cases h2 : d = 2 <;> simp [*]
    · simp [ha]
  · simp only [upd, List.mem_cons, List.mem_nil_iff, or_false]
    by_cases hv : w = v
    · subst hv
      by_cases h0 : d = 0 <;> by_cases h1 : d = 1 <;> by_cases h2 : d = 2 <;> simp [*]
    · simp [hv]

theorem handle_setWithdrawAddr {s s' : Sys} {who a : Addr} {ms : List Msg}
    (hx : s.handle (.setWithdrawAddr who a) = .ok (s', ms)) :
    who = hubA ∧ ms = [] ∧ s' = { s with chain := { s.chain with withdrawAddr := a } } := by
  simp only [Sys.handle] at hx
  exc_norm at hx
  exc_split at hx
  rename_i hw
  exact ⟨Classical.not_not.mp hw, rfl, rfl⟩

/-- What a wasm call does once the attached funds have moved (state `s1`): the contract at the
    target address runs on its own state, and only that state changes; the swap stub pays out the
    converted amount, or nothing when it rounds to zero; the sink swallows anything. -/
inductive Ran (s1 s' : Sys) (sender : Addr) (funds : List (Denom × Nat)) (ms : List Msg) : Addr → Call → Prop where
  | hub (hm : HubMsg) (h' : HubSt) (hx : hubExec s1.hub s1.hubEnv sender funds hm = .ok (h', ms))
      (hs : s' = { s1 with hub := h' }) : Ran s1 s' sender funds ms hubA (.hub hm)
  | bsei (tm : TokMsg) (t' : Token)
      (hx : bseiExec s1.bsei s1.block bseiA s1.bseiRewardAddr hubA sender tm = .ok (t', ms))
      (hs : s' = { s1 with bsei := t' }) : Ran s1 s' sender funds ms bseiA (.tok tm)
  | stsei (tm : TokMsg) (t' : Token) (hx : stseiExec s1.stsei s1.block stseiA hubA sender tm = .ok (t', ms))
      (hs : s' = { s1 with stsei := t' }) : Ran s1 s' sender funds ms stseiA (.tok tm)
  | reward (rm : RewMsg) (r' : RewardSt)
      (hx : rewardExec s1.reward rewardA (s1.hubTokenOf s1.reward.hub) (s1.hubDispatcherOf s1.reward.hub)
              (s1.chain.bank rewardA) sender rm = .ok (r', ms))
      (hs : s' = { s1 with reward := r' }) : Ran s1 s' sender funds ms rewardA (.reward rm)
  | disp (dm : DispMsg) (d' : DispSt) (hx : dispExec s1.disp dispA s1.dispEnv sender dm = .ok (d', ms))
      (hs : s' = { s1 with disp := d' }) : Ran s1 s' sender funds ms dispA (.disp dm)
  | reg (rm : RegMsg) (r' : RegSt) (hx : s1.regExec sender rm = .ok (r', ms))
      (hs : s' = { s1 with reg := r' }) : Ran s1 s' sender funds ms regA (.reg rm)
  | swap (src : Denom) (amt : Nat) (dst : Denom) (to : Option Addr) (p : Nat) (hok : s1.chain.swapOk = true)
      (hp : s1.swapPrice src dst = some p) (hs : s' = s1)
      (hms : ms = if mulDec amt p = 0 then [] else [Msg.bankSend swapA (to.getD sender) dst (mulDec amt p)]) :
      Ran s1 s' sender funds ms swapA (.swapDenom src amt dst to)
  | sink (c : Call) (hs : s' = s1) (hms : ms = []) : Ran s1 s' sender funds ms sinkA c

theorem handle_wasm {s s' : Sys} {sender target : Addr} {call : Call} {funds : List (Denom × Nat)}
    {ms : List Msg} (hx : s.handle (.wasm sender target call funds) = .ok (s', ms)) :
    ∃ s1, s.moveFunds sender target funds = .ok s1 ∧ Ran s1 s' sender funds ms target call := by
  simp only [Sys.handle] at hx
  exc_norm at hx
  split at hx
  · cases hx
  · rename_i s1 h1
    refine ⟨s1, h1, ?_⟩
    clear h1
    by_cases t1 : target = hubA
    · subst t1
      simp only [if_true] at hx
      exc_split at hx
      exact .hub _ _ ‹_› rfl
    simp only [t1, if_false] at hx
    by_cases t2 : target = bseiA
    · subst t2
      simp only [if_true] at hx
      exc_split at hx
      exact .bsei _ _ ‹_› rfl
    simp only [t2, if_false] at hx
    by_cases t3 : target = stseiA
    · subst t3
      simp only [if_true] at hx
      exc_split at hx
      exact .stsei _ _ ‹_› rfl
    simp only [t3, if_false] at hx
    by_cases t4 : target = rewardA
    · subst t4
      simp only [if_true] at hx
      exc_split at hx
      exact .reward _ _ ‹_› rfl
    simp only [t4, if_false] at hx
    by_cases t5 : target = dispA
    · subst t5
      simp only [if_true] at hx
      exc_split at hx
      exact .disp _ _ ‹_› rfl
    simp only [t5, if_false] at hx
    by_cases t6 : target = regA
    · subst t6
      simp only [if_true] at hx
      exc_split at hx
      exact .reg _ _ ‹_› rfl
    simp only [t6, if_false] at hx
    by_cases t7 : target = swapA
    · subst t7
      simp only [if_true] at hx
      exc_split at hx
      · rename_i h0 hok hp
        exact .swap _ _ _ _ _ (by simpa using hok) hp rfl (by rw [if_pos h0])
      · rename_i h0 hok hp
        exact .swap _ _ _ _ _ (by simpa using hok) hp rfl (by rw [if_neg h0]; rfl)
    simp only [t7, if_false] at hx
    exc_split at hx
    rename_i t8
    subst t8
    exact .sink _ rfl rfl

theorem handle_hub {s s' : Sys} {sender : Addr} {call : Call} {funds : List (Denom × Nat)} {ms : List Msg}
    (hx : s.handle (.wasm sender hubA call funds) = .ok (s', ms)) :
    ∃ s1 hm h', call = .hub hm ∧ s.moveFunds sender hubA funds = .ok s1 ∧
      hubExec s1.hub s1.hubEnv sender funds hm = .ok (h', ms) ∧ s' = { s1 with hub := h' } := by
  obtain ⟨s1, hmv, r⟩ := handle_wasm hx
  cases r with
  | hub hm h' hr hs => exact ⟨s1, hm, h', rfl, hmv, hr, hs⟩

theorem handle_bsei {s s' : Sys} {sender : Addr} {call : Call} {funds : List (Denom × Nat)} {ms : List Msg}
    (hx : s.handle (.wasm sender bseiA call funds) = .ok (s', ms)) :
    ∃ s1 tm t', call = .tok tm ∧ s.moveFunds sender bseiA funds = .ok s1 ∧
      bseiExec s1.bsei s1.block bseiA s1.bseiRewardAddr hubA sender tm = .ok (t', ms) ∧
      s' = { s1 with bsei := t' } := by
  obtain ⟨s1, hmv, r⟩ := handle_wasm hx
  cases r with
  | bsei tm t' hr hs => exact ⟨s1, tm, t', rfl, hmv, hr, hs⟩

theorem handle_stsei {s s' : Sys} {sender : Addr} {call : Call} {funds : List (Denom × Nat)} {ms : List Msg}
    (hx : s.handle (.wasm sender stseiA call funds) = .ok (s', ms)) :
    ∃ s1 tm t', call = .tok tm ∧ s.moveFunds sender stseiA funds = .ok s1 ∧
      stseiExec s1.stsei s1.block stseiA hubA sender tm = .ok (t', ms) ∧ s' = { s1 with stsei := t' } := by
  obtain ⟨s1, hmv, r⟩ := handle_wasm hx
  cases r with
  | stsei tm t' hr hs => exact ⟨s1, tm, t', rfl, hmv, hr, hs⟩

theorem handle_reward {s s' : Sys} {sender : Addr} {call : Call} {funds : List (Denom × Nat)} {ms : List Msg}
    (hx : s.handle (.wasm sender rewardA call funds) = .ok (s', ms)) :
    ∃ s1 rm r', call = .reward rm ∧ s.moveFunds sender rewardA funds = .ok s1 ∧
      rewardExec s1.reward rewardA (s1.hubTokenOf s1.reward.hub) (s1.hubDispatcherOf s1.reward.hub)
        (s1.chain.bank rewardA) sender rm = .ok (r', ms) ∧ s' = { s1 with reward := r' } := by
  obtain ⟨s1, hmv, r⟩ := handle_wasm hx
  cases r with
  | reward rm r' hr hs => exact ⟨s1, rm, r', rfl, hmv, hr, hs⟩

theorem handle_disp {s s' : Sys} {sender : Addr} {call : Call} {funds : List (Denom × Nat)} {ms : List Msg}
    (hx : s.handle (.wasm sender dispA call funds) = .ok (s', ms)) :
    ∃ s1 dm d', call = .disp dm ∧ s.moveFunds sender dispA funds = .ok s1 ∧
      dispExec s1.disp dispA s1.dispEnv sender dm = .ok (d', ms) ∧ s' = { s1 with disp := d' } := by
  obtain ⟨s1, hmv, r⟩ := handle_wasm hx
  cases r with
  | disp dm d' hr hs => exact ⟨s1, dm, d', rfl, hmv, hr, hs⟩

theorem handle_reg {s s' : Sys} {sender : Addr} {call : Call} {funds : List (Denom × Nat)} {ms : List Msg}
    (hx : s.handle (.wasm sender regA call funds) = .ok (s', ms)) :
    ∃ s1 rm r', call = .reg rm ∧ s.moveFunds sender regA funds = .ok s1 ∧
      s1.regExec sender rm = .ok (r', ms) ∧ s' = { s1 with reg := r' } := by
  obtain ⟨s1, hmv, r⟩ := handle_wasm hx
  cases r with
  | reg rm r' hr hs => exact ⟨s1, rm, r', rfl, hmv, hr, hs⟩

theorem handle_hub_same {s s' : Sys} {m : Msg} {ms : List Msg} (hx : s.handle m = .ok (s', ms))
    (hm : ∀ sender call funds, m ≠ .wasm sender hubA call funds) : s'.hub = s.hub := by
  cases m with
  | bankSend src dst d amt => obtain ⟨_, _, rfl⟩ := bankMove_ok (handle_bankSend hx).1; rfl
  | delegate who v amt => obtain ⟨_, _, _, _, _, rfl⟩ := handle_delegate hx; rfl
  | undelegate who v amt => obtain ⟨_, _, _, _, _, rfl⟩ := handle_undelegate hx; rfl
  | redelegate who src dst amt => obtain ⟨_, _, _, _, _, _, _, rfl⟩ := handle_redelegate hx; rfl
  | withdrawReward who v => obtain ⟨_, _, _, _, _, rfl, _⟩ := handle_withdrawReward hx; rfl
  | setWithdrawAddr who a => obtain ⟨_, _, rfl⟩ := handle_setWithdrawAddr hx; rfl
  | wasm sender target call funds =>
    obtain ⟨s1, hmv, r⟩ := handle_wasm hx
    obtain ⟨_, rfl⟩ := moveFunds_chain hmv
    cases r with
    | hub => exact absurd rfl (hm _ _ _)
    | _ => subst_vars; rfl

theorem handle_hub_call {s : Sys} {sender : Addr} {hm : HubMsg} {h' : HubSt} {ms : List Msg}
    (hx : hubExec s.hub s.hubEnv sender [] hm = .ok (h', ms)) :
    s.handle (.wasm sender hubA (.hub hm) []) = .ok ({ s with hub := h' }, ms) := by
  simp only [Sys.handle, Sys.moveFunds, bind, Except.bind, pure, Except.pure, if_true, hx]

theorem handle_bankSend_ok {s : Sys} {src dst : Addr} {d : Denom} {amt : Nat} (h0 : amt ≠ 0)
    (hle : amt ≤ s.chain.bank src d) :
    s.handle (.bankSend src dst d amt) =
      .ok ((s.setBank src d (s.chain.bank src d - amt)).setBank dst d
        ((s.setBank src d (s.chain.bank src d - amt)).chain.bank dst d + amt), []) := by
  simp only [Sys.handle, Sys.bankMove, bind, Except.bind, pure, Except.pure]
  rw [if_neg h0, if_neg (Nat.not_lt.mpr hle)]

theorem Ran.handle {s s1 s' : Sys} {sender target : Addr} {call : Call} {funds : List (Denom × Nat)}
    {ms : List Msg} (hmv : s.moveFunds sender target funds = .ok s1)
    (r : Ran s1 s' sender funds ms target call) : s.handle (.wasm sender target call funds) = .ok (s', ms) := by
  simp only [Sys.handle, hmv, bind, Except.bind, pure, Except.pure]
  -- the addresses are distinct numerals, so `decide` picks the branch of the contract called
  cases r with
  | hub _ _ hx hs | bsei _ _ hx hs | stsei _ _ hx hs | reward _ _ hx hs | disp _ _ hx hs | reg _ _ hx hs =>
    simp +decide only [hx, hs, if_true, if_false]
  | swap src amt dst t p hok hp hs hms =>
    subst hs hms
    simp +decide only [hok, hp, if_true, if_false]
    split <;> rfl
  | sink c hs hms => simp +decide only [hs, hms, if_true, if_false]

theorem handle_undelegate_ok {s : Sys} {v : Addr} {amt : Nat} (h0 : amt ≠ 0) (hle : amt ≤ s.chain.deleg v)
    (hnu : s.chain.noUndelegate v = false) : ∃ s1, s.handle (.undelegate hubA v amt) = .ok (s1, []) := by
  simp only [Sys.handle, bind, Except.bind, pure, Except.pure]
  rw [if_neg (by simp), if_neg h0, if_neg (by omega), if_neg (by simp [hnu])]
  exact ⟨_, rfl⟩

theorem hubEnv_congr {s s' : Sys} (hc : s'.chain = s.chain) (hb : s'.bsei.supply = s.bsei.supply)
    (hs : s'.stsei.supply = s.stsei.supply) (hr : s'.reg = s.reg) : s'.hubEnv = s.hubEnv := by
  have h1 : s'.supplyOf = s.supplyOf := by funext a; simp only [Sys.supplyOf, hb, hs]
  have h2 : s'.validatorsOf = s.validatorsOf := by
    funext a; simp only [Sys.validatorsOf, Sys.regValidatorsRaw, Sys.delegationsOf, hc, hr]
  simp only [Sys.hubEnv, Sys.delegationsOf, hc, h1, h2]

theorem bseiRewardAddr_congr {s s' : Sys} (h1 : s'.bsei.hub = s.bsei.hub) (h2 : s'.hub.dispatcher = s.hub.dispatcher)
    (h3 : s'.disp = s.disp) : s'.bseiRewardAddr = s.bseiRewardAddr := by
  simp only [Sys.bseiRewardAddr, Sys.hubDispatcherOf, h1, h2, h3]

theorem hubTokenOf_congr {s s' : Sys} (h : s'.hub.bsei = s.hub.bsei) (a : Addr) :
    s'.hubTokenOf a = s.hubTokenOf a := by
  simp only [Sys.hubTokenOf, h]

theorem handle_wasm_chain_eq (s s' : Sys) (a b : Addr) (c : Call) (d : List (Denom × Nat)) (ms : List Msg)
    (hx : s.handle (.wasm a b c d) = .ok (s', ms)) :
    ∃ s1, s.moveFunds a b d = .ok s1 ∧ s'.chain = s1.chain := by
  obtain ⟨s1, hmv, r⟩ := handle_wasm hx
  exact ⟨s1, hmv, by cases r <;> subst_vars <;> rfl⟩

structure SameContracts (s s' : Sys) : Prop where
  hub : s'.hub = s.hub
  bsei : s'.bsei = s.bsei
  stsei : s'.stsei = s.stsei
  reward : s'.reward = s.reward
  disp : s'.disp = s.disp
  reg : s'.reg = s.reg

theorem SameContracts.refl (s : Sys) : SameContracts s s := ⟨rfl, rfl, rfl, rfl, rfl, rfl⟩
theorem SameContracts.trans {a b c : Sys} (x : SameContracts a b) (y : SameContracts b c) : SameContracts a c :=
  ⟨y.hub.trans x.hub, y.bsei.trans x.bsei, y.stsei.trans x.stsei, y.reward.trans x.reward,
   y.disp.trans x.disp, y.reg.trans x.reg⟩

theorem setBank_same (s : Sys) (a : Addr) (d : Denom) (v : Nat) : SameContracts s (s.setBank a d v) :=
  ⟨rfl, rfl, rfl, rfl, rfl, rfl⟩

theorem moveFunds_same (src dst : Addr) (l : List (Denom × Nat)) (s s' : Sys)
    (hx : s.moveFunds src dst l = .ok s') : SameContracts s s' := by
  obtain ⟨_, rfl⟩ := moveFunds_chain hx
  exact ⟨rfl, rfl, rfl, rfl, rfl, rfl⟩

theorem moveFunds_staking (src dst : Addr) (l : List (Denom × Nat)) (s s' : Sys)
    (hx : s.moveFunds src dst l = .ok s') :
    s'.chain.deleg = s.chain.deleg ∧ s'.chain.delegSet = s.chain.delegSet := by
  obtain ⟨_, rfl⟩ := moveFunds_chain hx
  exact ⟨rfl, rfl⟩

theorem handle_wasm_chain (s s' : Sys) (a b : Addr) (c : Call) (d : List (Denom × Nat)) (ms : List Msg)
    (hx : s.handle (.wasm a b c d) = .ok (s', ms)) :
    s'.chain.deleg = s.chain.deleg ∧ s'.chain.delegSet = s.chain.delegSet := by
  obtain ⟨s1, hmv, hc⟩ := handle_wasm_chain_eq s s' a b c d ms hx
  rw [hc]
  exact moveFunds_staking a b d s s1 hmv

theorem env_ledgers (s : Sys) (e : EnvOp) :
    (s.env e).bsei = s.bsei ∧ (s.env e).stsei = s.stsei ∧ (s.env e).reward = s.reward := by
  cases e with
  | slash v n d | slashUnbonding v n d => simp only [Sys.env]; split <;> exact ⟨rfl, rfl, rfl⟩
  | _ => exact ⟨rfl, rfl, rfl⟩

/-- `seedLegacy` is the one environment event that writes a contract's state: it models storage
    left by the pre-migration hub. -/
theorem env_same (s : Sys) (e : EnvOp) (hl : ∀ u b a, e ≠ .seedLegacy u b a) : SameContracts s (s.env e) := by
  cases e with
  | seedLegacy u b a => exact absurd rfl (hl u b a)
  | slash v n d => simp only [Sys.env]; split <;> exact ⟨rfl, rfl, rfl, rfl, rfl, rfl⟩
  | slashUnbonding v n d => simp only [Sys.env]; split <;> exact ⟨rfl, rfl, rfl, rfl, rfl, rfl⟩
  | _ => exact ⟨rfl, rfl, rfl, rfl, rfl, rfl⟩

/-- the ways a message can touch the contracts: a chain-level message or a call of a stub touches
    none (and emits at most a payout from the swap stub); otherwise it is exactly one call of one
    contract's executor on its current state (after the attached funds moved), by the message's own
    sender, and everything it emits is sent by that contract -/
inductive Touch (s s' : Sys) (m : Msg) (ms : List Msg) : Prop where
  | none (h : SameContracts s s')
      (hm : (∀ a b c d, m ≠ .wasm a b c d) ∨ ∃ a b c d, m = .wasm a b c d ∧ (b = swapA ∨ b = sinkA))
      (hs : SentBy swapA ms) (hb : ∀ x ∈ ms, ∃ t d a, x = Msg.bankSend swapA t d a)
  | hub (s1 : Sys) (sender : Addr) (funds : List (Denom × Nat)) (hm : HubMsg)
      (heq : m = .wasm sender hubA (.hub hm) funds) (h1 : SameContracts s s1)
      (hmv : s.moveFunds sender hubA funds = .ok s1)
      (hc : s1.chain.deleg = s.chain.deleg ∧ s1.chain.delegSet = s.chain.delegSet ∧ s'.chain = s1.chain)
      (hx : hubExec s.hub s1.hubEnv sender funds hm = .ok (s'.hub, ms))
      (b : s'.bsei = s.bsei) (t : s'.stsei = s.stsei) (r : s'.reward = s.reward) (d : s'.disp = s.disp) (g : s'.reg = s.reg)
  | bsei (s1 : Sys) (sender : Addr) (funds : List (Denom × Nat)) (tm : TokMsg)
      (heq : m = .wasm sender bseiA (.tok tm) funds) (h1 : SameContracts s s1)
      (hx : bseiExec s.bsei s1.block bseiA s1.bseiRewardAddr hubA sender tm = .ok (s'.bsei, ms))
      (h : s'.hub = s.hub) (t : s'.stsei = s.stsei) (r : s'.reward = s.reward) (d : s'.disp = s.disp) (g : s'.reg = s.reg)
  | stsei (blk : Block) (sender : Addr) (funds : List (Denom × Nat)) (tm : TokMsg)
      (heq : m = .wasm sender stseiA (.tok tm) funds)
      (hx : stseiExec s.stsei blk stseiA hubA sender tm = .ok (s'.stsei, ms))
      (h : s'.hub = s.hub) (b : s'.bsei = s.bsei) (r : s'.reward = s.reward) (d : s'.disp = s.disp) (g : s'.reg = s.reg)
  | reward (s1 : Sys) (sender : Addr) (funds : List (Denom × Nat)) (rm : RewMsg)
      (heq : m = .wasm sender rewardA (.reward rm) funds) (h1 : SameContracts s s1)
      (hmv : s.moveFunds sender rewardA funds = .ok s1) (hch : s'.chain = s1.chain)
      (hx : rewardExec s.reward rewardA (s1.hubTokenOf s1.reward.hub) (s1.hubDispatcherOf s1.reward.hub)
              (s1.chain.bank rewardA) sender rm = .ok (s'.reward, ms))
      (h : s'.hub = s.hub) (b : s'.bsei = s.bsei) (t : s'.stsei = s.stsei) (d : s'.disp = s.disp) (g : s'.reg = s.reg)
  | disp (s1 : Sys) (sender : Addr) (funds : List (Denom × Nat)) (dm : DispMsg)
      (heq : m = .wasm sender dispA (.disp dm) funds)
      (hmv : s.moveFunds sender dispA funds = .ok s1) (hch : s'.chain = s1.chain)
      (hx : dispExec s.disp dispA s1.dispEnv sender dm = .ok (s'.disp, ms))
      (h : s'.hub = s.hub) (b : s'.bsei = s.bsei) (t : s'.stsei = s.stsei) (r : s'.reward = s.reward) (g : s'.reg = s.reg)
  | reg (s1 : Sys) (sender : Addr) (funds : List (Denom × Nat)) (rm : RegMsg)
      (heq : m = .wasm sender regA (.reg rm) funds) (h1 : s1.reg = s.reg)
      (hmv : s.moveFunds sender regA funds = .ok s1) (hch : s'.chain = s1.chain)
      (hx : s1.regExec sender rm = .ok (s'.reg, ms))
      (h : s'.hub = s.hub) (b : s'.bsei = s.bsei) (t : s'.stsei = s.stsei) (r : s'.reward = s.reward) (d : s'.disp = s.disp)

theorem handle_touch (s s' : Sys) (m : Msg) (ms : List Msg) (hx : s.handle m = .ok (s', ms)) :
    Touch s s' m ms := by
  have chain : ∀ {m : Msg}, (∀ a b c d, m ≠ .wasm a b c d) → SameContracts s s' → ms = [] → Touch s s' m ms :=
    fun hm h he => he ▸ .none h (Or.inl hm) (SentBy.nil _) (fun _ h => by cases h)
  cases m with
  | bankSend src dst d amt =>
    obtain ⟨hb, he⟩ := handle_bankSend hx
    obtain ⟨_, _, rfl⟩ := bankMove_ok hb
    exact chain (fun _ _ _ _ h => by cases h) ⟨rfl, rfl, rfl, rfl, rfl, rfl⟩ he
  | delegate who v amt =>
    obtain ⟨_, _, _, _, he, rfl⟩ := handle_delegate hx
    exact chain (fun _ _ _ _ h => by cases h) ⟨rfl, rfl, rfl, rfl, rfl, rfl⟩ he
  | undelegate who v amt =>
    obtain ⟨_, _, _, _, he, rfl⟩ := handle_undelegate hx
    exact chain (fun _ _ _ _ h => by cases h) ⟨rfl, rfl, rfl, rfl, rfl, rfl⟩ he
  | redelegate who src dst amt =>
    obtain ⟨_, _, _, _, _, _, he, rfl⟩ := handle_redelegate hx
    exact chain (fun _ _ _ _ h => by cases h) ⟨rfl, rfl, rfl, rfl, rfl, rfl⟩ he
  | withdrawReward who v =>
    obtain ⟨_, _, he, _, _, rfl, _⟩ := handle_withdrawReward hx
    exact chain (fun _ _ _ _ h => by cases h) ⟨rfl, rfl, rfl, rfl, rfl, rfl⟩ he
  | setWithdrawAddr who a =>
    obtain ⟨_, he, rfl⟩ := handle_setWithdrawAddr hx
    exact chain (fun _ _ _ _ h => by cases h) ⟨rfl, rfl, rfl, rfl, rfl, rfl⟩ he
  | wasm sender target call funds =>
    obtain ⟨s1, hmv, r⟩ := handle_wasm hx
    have sc := moveFunds_same _ _ _ _ _ hmv
    have sk := moveFunds_staking _ _ _ _ _ hmv
    cases r with
    | hub hm h' hr hs =>
      rw [sc.hub] at hr
      subst hs
      exact .hub s1 sender funds hm rfl sc hmv ⟨sk.1, sk.2, rfl⟩ hr sc.bsei sc.stsei sc.reward sc.disp sc.reg
    | bsei tm t' hr hs =>
      rw [sc.bsei] at hr
      subst hs
      exact .bsei s1 sender funds tm rfl sc hr sc.hub sc.stsei sc.reward sc.disp sc.reg
    | stsei tm t' hr hs =>
      rw [sc.stsei] at hr
      subst hs
      exact .stsei s1.block sender funds tm rfl hr sc.hub sc.bsei sc.reward sc.disp sc.reg
    | reward rm r' hr hs =>
      rw (occs := .pos [1]) [sc.reward] at hr
      subst hs
      exact .reward s1 sender funds rm rfl sc hmv rfl hr sc.hub sc.bsei sc.stsei sc.disp sc.reg
    | disp dm d' hr hs =>
      rw [sc.disp] at hr
      subst hs
      exact .disp s1 sender funds dm rfl hmv rfl hr sc.hub sc.bsei sc.stsei sc.reward sc.reg
    | reg rm r' hr hs =>
      subst hs
      exact .reg s1 sender funds rm rfl sc.reg hmv rfl hr sc.hub sc.bsei sc.stsei sc.reward sc.disp
    | swap src amt dst to p hok hp hs hms =>
      subst hs
      refine .none sc (Or.inr ⟨sender, swapA, _, funds, rfl, Or.inl rfl⟩) ?_ ?_
      · rw [hms]; split
        · exact SentBy.nil _
        · exact SentBy.cons rfl (SentBy.nil _)
      · rw [hms]; split
        · exact fun _ h => by cases h
        · exact fun x h => ⟨_, _, _, List.mem_singleton.mp h⟩
    | sink c hs hms =>
      subst hs; subst hms
      exact .none sc (Or.inr ⟨_, _, _, _, rfl, Or.inr rfl⟩) (SentBy.nil _) (fun _ h => by cases h)

theorem handle_chain_same {s s' : Sys} {m : Msg} {ms : List Msg} (hx : s.handle m = .ok (s', ms))
    (hm : ∀ a b c d, m ≠ .wasm a b c d) : SameContracts s s' := by
  cases handle_touch s s' m ms hx with
  | none h => exact h
  | hub _ _ _ _ heq | bsei _ _ _ _ heq | stsei _ _ _ _ heq | reward _ _ _ _ heq | disp _ _ _ _ heq
  | reg _ _ _ _ heq => exact absurd heq (hm _ _ _ _)

/-- `x` is, by its shape, a message that handling `m` can emit: what the addressed contract emits
    for that call (`Lemmas/Emit`), or the swap stub's payout -/
inductive Emits : Msg → Msg → Prop where
  | hub {sender : Addr} {funds : List (Denom × Nat)} {hm : HubMsg} {x : Msg} (o : HubOut hubA sender hm x) :
      Emits (.wasm sender hubA (.hub hm) funds) x
  | bsei {sender : Addr} {funds : List (Denom × Nat)} {tm : TokMsg} {x : Msg} (o : TokOut bseiA sender hubA tm x) :
      Emits (.wasm sender bseiA (.tok tm) funds) x
  | stsei {sender : Addr} {funds : List (Denom × Nat)} {tm : TokMsg} {x : Msg} (o : TokOut stseiA sender hubA tm x) :
      Emits (.wasm sender stseiA (.tok tm) funds) x
  | reward {sender : Addr} {funds : List (Denom × Nat)} {rm : RewMsg} {x : Msg} (o : RewOut rewardA sender rm x) :
      Emits (.wasm sender rewardA (.reward rm) funds) x
  | disp {sender : Addr} {funds : List (Denom × Nat)} {dm : DispMsg} {x : Msg} (o : DispOut dispA dm x) :
      Emits (.wasm sender dispA (.disp dm) funds) x
  | reg {sender : Addr} {funds : List (Denom × Nat)} {rm : RegMsg} {x : Msg} (o : RegOut rm x) :
      Emits (.wasm sender regA (.reg rm) funds) x
  | swap (sender : Addr) (funds : List (Denom × Nat)) (src : Denom) (amt : Nat) (dst : Denom) (to : Option Addr)
      (t : Addr) (n : Nat) : Emits (.wasm sender swapA (.swapDenom src amt dst to) funds) (.bankSend swapA t dst n)

theorem handle_chain_nil {s s' : Sys} {m : Msg} {ms : List Msg} (hx : s.handle m = .ok (s', ms))
    (hm : ∀ a b c d, m ≠ .wasm a b c d) : ms = [] := by
  cases m with
  | bankSend src dst d amt => exact (handle_bankSend hx).2
  | delegate who v amt => exact (handle_delegate hx).2.2.2.2.1
  | undelegate who v amt => exact (handle_undelegate hx).2.2.2.2.1
  | redelegate who src dst amt => exact (handle_redelegate hx).2.2.2.2.2.2.1
  | withdrawReward who v => exact (handle_withdrawReward hx).2.2.1
  | setWithdrawAddr who a => exact (handle_setWithdrawAddr hx).2.1
  | wasm a b c d => exact absurd rfl (hm a b c d)

theorem handle_emits {s s' : Sys} {m : Msg} {ms : List Msg} (hx : s.handle m = .ok (s', ms)) :
    ∀ x ∈ ms, Emits m x := by
  cases m with
  | wasm sender target call funds =>
    obtain ⟨s1, _, r⟩ := handle_wasm hx
    cases r with
    | hub hm h' hr _ => exact fun x h => .hub (hubExec_out hr x h)
    | bsei tm t' hr _ => exact fun x h => .bsei (bseiExec_out hr x h)
    | stsei tm t' hr _ => exact fun x h => .stsei (stseiExec_out hr x h)
    | reward rm r' hr _ => exact fun x h => .reward (rewardExec_out hr x h)
    | disp dm d' hr _ => exact fun x h => .disp (dispExec_out hr x h)
    | reg rm r' hr _ => exact fun x h => .reg (regExec_out hr x h)
    | swap src amt dst to p _ _ _ hms =>
      subst hms
      split
      · exact fun _ h => (List.not_mem_nil h).elim
      · exact List.forall_mem_singleton.mpr (.swap ..)
    | sink c _ hms => subst hms; exact fun _ h => (List.not_mem_nil h).elim
  | _ => rw [handle_chain_nil hx (fun _ _ _ _ h => nomatch h)]; exact fun _ h => (List.not_mem_nil h).elim

theorem Emits.sentFrom {a b : Addr} {c : Call} {d : List (Denom × Nat)} {x : Msg}
    (h : Emits (.wasm a b c d) x) : x.sentFrom = b := by
  cases h with
  | hub o => exact o.sentFrom
  | bsei o => exact o.sentFrom
  | stsei o => exact o.sentFrom
  | reward o => exact o.sentFrom
  | disp o => exact o.sentFrom
  | reg o => exact o.sentFrom
  | swap => rfl

theorem handle_sentBy (s s' : Sys) (m : Msg) (ms : List Msg) (hx : s.handle m = .ok (s', ms)) :
    (∀ a b c d, m = .wasm a b c d → SentBy b ms) ∧ ((∀ a b c d, m ≠ .wasm a b c d) → ms = []) := by
  exact ⟨fun a b c d hm x h => (hm ▸ handle_emits hx x h).sentFrom, handle_chain_nil hx⟩

theorem handle_reward_same {s s' : Sys} {m : Msg} {ms : List Msg} (hx : s.handle m = .ok (s', ms))
    (hm : ∀ sender rm funds, m ≠ .wasm sender rewardA (.reward rm) funds) : s'.reward = s.reward := by
  cases handle_touch s s' m ms hx with
  | none h _ _ _ => exact h.reward
  | hub _ _ _ _ _ _ _ _ _ _ _ r _ _ => exact r
  | bsei _ _ _ _ _ _ _ _ _ r _ _ => exact r
  | stsei _ _ _ _ _ _ _ _ r _ _ => exact r
  | reward _ _ _ _ heq _ _ _ _ _ _ _ _ _ => exact absurd heq (hm _ _ _)
  | disp _ _ _ _ _ _ _ _ _ _ _ r _ => exact r
  | reg _ _ _ _ _ _ _ _ _ _ _ _ r _ => exact r

theorem handle_hub_or_same {s s' : Sys} {m : Msg} {ms : List Msg} (hx : s.handle m = .ok (s', ms)) :
    s'.hub = s.hub ∨ ∃ e sender funds hm, hubExec s.hub e sender funds hm = .ok (s'.hub, ms) := by
  cases handle_touch s s' m ms hx with
  | none h _ _ _ => exact .inl h.hub
  | hub s1 sender funds hm _ _ _ _ hx' _ _ _ _ _ => exact .inr ⟨_, _, _, _, hx'⟩
  | bsei _ _ _ _ _ _ _ h _ _ _ _ | stsei _ _ _ _ _ _ h _ _ _ _ | reward _ _ _ _ _ _ _ _ _ h _ _ _ _
  | disp _ _ _ _ _ _ _ _ h _ _ _ _ | reg _ _ _ _ _ _ _ _ _ h _ _ _ _ => exact .inl h

end Krp
