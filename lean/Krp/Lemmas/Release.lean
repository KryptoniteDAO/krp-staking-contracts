/-
  Release.lean — arithmetic of `process_withdraw_rate` / `calculate_new_withdraw_rate` for a group
  of batches released together (C01, C06): what one token side of the group is allocated never
  exceeds what arrived for that side, (a) whenever the side was not slashed, and (b) under a slash
  `sl` of the side's unbonding stake whenever `n · sl ≤ 10^18` (`n` = batches in the group).
  Outside (b) the bound is false (D5, `C01_release_group_counterexample`).
-/
import Krp.Lemmas.Arith
import Krp.Hub
namespace Krp
open HubSt

/-- the coin amount `calculate_new_withdraw_rate` re-prices a batch side to (before it is turned
    back into a rate): `u` = undelegated for the side, `T` = the group's total for the token -/
def relActual (u T : Nat) (sl : Nat × Bool) : Nat :=
  if sl.2 then u + (if mulDec sl.1 (if T ≠ 0 then fromRatio u T else 0) > 1
                    then mulDec sl.1 (if T ≠ 0 then fromRatio u T else 0) - 1 else 0)
  else u - (if sl.1 ≠ 0 then mulDec sl.1 (if T ≠ 0 then fromRatio u T else 0) + 1
            else mulDec sl.1 (if T ≠ 0 then fromRatio u T else 0))

theorem newWithdrawRate_eq (a r T : Nat) (sl : Nat × Bool) :
    newWithdrawRate a r T sl = if a ≠ 0 then fromRatio (relActual (mulDec a r) T sl) a else r := rfl

theorem relActual_zero (u T : Nat) : relActual u T (0, false) = u := by
  unfold relActual mulDec
  simp only [Nat.zero_mul, Nat.zero_div, ne_eq, not_true_eq_false, if_false, Bool.false_eq_true,
    Nat.sub_zero]

theorem nwr_alloc_le (a r T : Nat) (sl : Nat × Bool) :
    mulDec a (newWithdrawRate a r T sl) ≤ relActual (mulDec a r) T sl := by
  by_cases ha : a = 0
  · subst ha; unfold mulDec; rw [Nat.zero_mul, Nat.zero_div]; exact Nat.zero_le _
  · rw [newWithdrawRate_eq, if_pos ha]
    exact Nat.div_le_of_le_mul (by rw [Nat.mul_comm D, Nat.mul_comm a]; exact Nat.div_mul_le_self ..)

/-- (a) unsolicited surplus `s` (or none): the group's side is re-priced to at most `T + s` -/
theorem relActual_sum_neg (us : List Nat) (s : Nat) :
    (us.map (fun u => relActual u us.sum (s, true))).sum ≤ us.sum + s := by
  by_cases hT : us.sum = 0
  · -- every weight is zero
    have hz : mulDec s 0 = 0 := by unfold mulDec; rw [Nat.mul_zero, Nat.zero_div]
    have : ∀ u, relActual u us.sum (s, true) = u := by
      intro u; unfold relActual
      simp only [hT, ne_eq, not_true_eq_false, if_false, if_true, hz]
      split <;> omega
    simp only [this, List.map_id']
    omega
  · -- multiplied through by `T`, a term is at most `u·T + s·u` (`split_lower`); sum and cancel
    have h : ∀ (T : Nat), T ≠ 0 → ∀ (l : List Nat),
        (l.map (fun u => relActual u T (s, true))).sum * T ≤ l.sum * T + s * l.sum := by
      intro T hT' l
      induction l with
      | nil => simp
      | cons u l ih =>
        have h1 : relActual u T (s, true) ≤ u + mulDec s (fromRatio u T) := by
          unfold relActual; simp only [hT', ne_eq, not_false_eq_true, if_true]
          split <;> omega
        have h2 := Nat.mul_le_mul_right T h1
        have h3 := split_lower s u T
        simp only [List.map_cons, List.sum_cons, Nat.add_mul, Nat.mul_add] at h2 ⊢
        omega
    have := h us.sum hT us
    rw [← Nat.add_mul] at this
    exact Nat.le_of_mul_le_mul_right this (Nat.pos_of_ne_zero hT)

/-- one batch side under a slash `sl` with `0 < sl ≤ T`, multiplied through by `D·T`: what is left
    of the side and its exact share of the slash together stay below the side plus `sl/10^18` -/
theorem slashed_term (u T sl : Nat) (hsl : 0 < sl) (hle : sl ≤ T) :
    relActual u T (sl, false) * D * T + sl * u * D < u * D * T + sl * T := by
  have hT : 0 < T := Nat.lt_of_lt_of_le hsl hle
  have up := split_upper_scaled sl u T hT
  have e : relActual u T (sl, false) = u - (mulDec sl (fromRatio u T) + 1) := by
    unfold relActual
    simp only [Nat.ne_of_gt hT, Nat.ne_of_gt hsl, ne_eq, not_false_eq_true, if_true,
      Bool.false_eq_true, if_false]
  rw [e]
  generalize mulDec sl (fromRatio u T) = m at *
  by_cases hc : m + 1 ≤ u
  · have := Nat.mul_le_mul_right T (Nat.mul_le_mul_right D hc)
    rw [Nat.sub_mul, Nat.sub_mul]
    omega
  · have h1 : sl * u * D ≤ T * u * D := Nat.mul_le_mul_right D (Nat.mul_le_mul_right u hle)
    have h2 : T * u * D = u * D * T := by ac_rfl
    have h3 := Nat.mul_pos hsl hT
    rw [Nat.sub_eq_zero_of_le (by omega), Nat.zero_mul, Nat.zero_mul]
    omega

theorem slashed_sum (T sl : Nat) (hsl : 0 < sl) (hle : sl ≤ T) (us : List Nat) :
    (us.map (fun u => relActual u T (sl, false))).sum * D * T + sl * us.sum * D + us.length ≤
      us.sum * D * T + us.length * (sl * T) := by
  induction us with
  | nil => simp
  | cons u us ih =>
    have h := slashed_term u T sl hsl hle
    simp only [List.map_cons, List.sum_cons, List.length_cons, Nat.add_mul, Nat.mul_add,
      Nat.one_mul] at ih ⊢
    omega

/-- (b) a slash `sl` of the side with `n · sl ≤ 10^18`: what the group's side is re-priced to,
    together with the slash, stays within the side's total -/
theorem relActual_sum_pos (us : List Nat) (sl : Nat) (hsl : 0 < sl) (hle : sl ≤ us.sum)
    (hn : us.length * sl ≤ D) :
    (us.map (fun u => relActual u us.sum (sl, false))).sum + sl ≤ us.sum := by
  have h := slashed_sum us.sum sl hsl hle us
  have hlen : 0 < us.length := by
    obtain ⟨x, hx, _⟩ := List.sum_pos_iff_exists_pos_nat.mp (Nat.lt_of_lt_of_le hsl hle)
    exact List.length_pos_of_mem hx
  generalize (us.map (fun u => relActual u us.sum (sl, false))).sum = R at *
  generalize us.sum = T at *
  generalize us.length = n at *
  -- (R + sl)·D·T + n ≤ T·D·T + n·sl·T ≤ (T + 1)·D·T
  have h1 : n * (sl * T) ≤ D * T := Nat.mul_assoc n sl T ▸ Nat.mul_le_mul_right T hn
  have h2 : (R + sl) * (D * T) < (T + 1) * (D * T) := by
    rw [Nat.add_mul, Nat.add_one_mul, ← Nat.mul_assoc, ← Nat.mul_assoc, ← Nat.mul_assoc,
      Nat.mul_right_comm sl D T]
    omega
  have := Nat.lt_of_mul_lt_mul_right h2
  omega

/-- total undelegated for one token side of a group; each element is (amount, rate) -/
def sideTotal (xs : List (Nat × Nat)) : Nat := (xs.map (fun x => mulDec x.1 x.2)).sum

def sideAlloc (xs : List (Nat × Nat)) (T : Nat) (sl : Nat × Bool) : Nat :=
  (xs.map (fun x => mulDec x.1 (newWithdrawRate x.1 x.2 T sl))).sum

/-- when is a side of a release group covered by the bound: not slashed, or slashed by an amount
    `sl` with `n · sl ≤ 10^18` -/
def SideSafe (n T A : Nat) : Prop := T ≤ A ∨ n * (T - A) ≤ D

theorem sideAlloc_le_relActual (xs : List (Nat × Nat)) (T : Nat) (sl : Nat × Bool) :
    sideAlloc xs T sl ≤ ((xs.map (fun x => mulDec x.1 x.2)).map (fun u => relActual u T sl)).sum := by
  unfold sideAlloc
  induction xs with
  | nil => simp
  | cons x xs ih =>
    simp only [List.map_cons, List.sum_cons] at ih ⊢
    have := nwr_alloc_le x.1 x.2 T sl
    omega

/-- **One token side of a release group is never allocated more than arrived for it.** `A` is what
    arrived for the side; the side's total `T` and the signed difference are exactly what
    `process_withdraw_rate` passes to `calculate_new_withdraw_rate`. -/
theorem side_alloc_le (xs : List (Nat × Nat)) (A : Nat) (hs : SideSafe xs.length (sideTotal xs) A) :
    sideAlloc xs (sideTotal xs) (signedSub (sideTotal xs) A) ≤ A := by
  refine Nat.le_trans (sideAlloc_le_relActual xs (sideTotal xs) _) ?_
  have hlen : (xs.map (fun x => mulDec x.1 x.2)).length = xs.length := List.length_map ..
  unfold sideTotal at *
  generalize (xs.map (fun x => mulDec x.1 x.2)) = us at *
  unfold signedSub
  by_cases hlt : us.sum < A
  · rw [if_pos hlt]
    have := relActual_sum_neg us (A - us.sum)
    omega
  · rw [if_neg hlt]
    by_cases heq : us.sum = A
    · rw [show us.sum - A = 0 by omega]
      simp only [relActual_zero, List.map_id']
      omega
    · have hn : us.length * (us.sum - A) ≤ D := by
        rcases hs with h | h
        · omega
        · rw [hlen]; exact h
      have := relActual_sum_pos us (us.sum - A) (by omega) (by omega) hn
      omega

/-! ### the other direction: absent slashing and unsolicited transfers only rounding dust is lost -/

theorem alloc_ge (a u : Nat) (ha : a ≠ 0) (haD : a ≤ D) : u ≤ mulDec a (fromRatio u a) + 1 := by
  have h := split_upper a u a (Nat.pos_of_ne_zero ha) haD
  rw [Nat.mul_comm a u] at h
  have := Nat.lt_of_mul_lt_mul_right h
  omega

/-- `(0, false)`: the side arrived exactly; its allocation falls short by at most one unit per batch -/
theorem side_alloc_ge_gen (xs : List (Nat × Nat)) (T : Nat) (hD : ∀ x ∈ xs, x.1 ≤ D) :
    (xs.map (fun x => mulDec x.1 x.2)).sum ≤ sideAlloc xs T (0, false) + xs.length := by
  unfold sideAlloc
  induction xs with
  | nil => simp
  | cons x xs ih =>
    simp only [List.map_cons, List.sum_cons, List.length_cons]
    have ih' := ih (fun y hy => hD y (List.mem_cons_of_mem _ hy))
    have one : mulDec x.1 x.2 ≤ mulDec x.1 (newWithdrawRate x.1 x.2 T (0, false)) + 1 := by
      rw [newWithdrawRate_eq, relActual_zero]
      split
      · rename_i ha; exact alloc_ge x.1 _ ha (hD x (List.mem_cons_self ..))
      · exact Nat.le_succ _
    omega

theorem side_alloc_ge (xs : List (Nat × Nat)) (hD : ∀ x ∈ xs, x.1 ≤ D) :
    sideTotal xs ≤ sideAlloc xs (sideTotal xs) (signedSub (sideTotal xs) (sideTotal xs)) + xs.length := by
  have hs : signedSub (sideTotal xs) (sideTotal xs) = (0, false) := by
    unfold signedSub; simp
  rw [hs]
  exact side_alloc_ge_gen xs (sideTotal xs) hD

/-- the split of arrived coins `act ≥ tot` (unsolicited transfers on top of the expected total, all
    within the envelope): neither token side receives less than was undelegated for it -/
theorem split_surplus (sT bT act : Nat) (hpos : 0 < sT + bT) (hge : sT + bT ≤ act) (hle : act ≤ D) :
    bT ≤ mulDec act (D - fromRatio sT (sT + bT)) ∧
    sT ≤ act - mulDec act (D - fromRatio sT (sT + bT)) := by
  have hq := fromRatio_le sT (sT + bT) (Nat.le_add_right sT bT)
  have h1 : fromRatio sT (sT + bT) * (sT + bT) ≤ sT * D := Nat.div_mul_le_self ..
  have h2 : sT * D < (fromRatio sT (sT + bT) + 1) * (sT + bT) := lt_div_add_one_mul _ _ hpos
  generalize fromRatio sT (sT + bT) = q at *
  obtain ⟨x, rfl⟩ : ∃ x, act = sT + bT + x := ⟨act - (sT + bT), by omega⟩
  -- act·(D − q) = tot·D + x·D − (tot·q + x·q), where tot·q ≤ sT·D < tot·q + tot and x·q ≤ x·D
  have e : (sT + bT + x) * (D - q) = sT * D + bT * D + x * D - ((sT + bT) * q + x * q) := by
    rw [Nat.mul_sub, Nat.add_mul _ x q, Nat.add_mul _ x D, Nat.add_mul sT bT D]
  have hx : x * q ≤ x * D := Nat.mul_le_mul_left x hq
  rw [Nat.mul_comm q] at h1
  rw [Nat.add_one_mul, Nat.mul_comm q] at h2
  have lo : bT ≤ mulDec (sT + bT + x) (D - q) :=
    (Nat.le_div_iff_mul_le D_pos).mpr (by rw [e]; omega)
  have hi : mulDec (sT + bT + x) (D - q) < bT + x + 1 :=
    (Nat.div_lt_iff_lt_mul D_pos).mpr
      (by rw [e, Nat.add_mul _ 1 D, Nat.add_mul bT x D, Nat.one_mul]; omega)
  omega

theorem split_exact (sT bT : Nat) (hpos : 0 < sT + bT) (hle : sT + bT ≤ D) :
    mulDec (sT + bT) (D - fromRatio sT (sT + bT)) = bT := by
  have h := split_surplus sT bT (sT + bT) hpos (Nat.le_refl _) hle
  have := mulDec_le (sT + bT) (D - fromRatio sT (sT + bT)) (Nat.sub_le ..)
  omega

end Krp
