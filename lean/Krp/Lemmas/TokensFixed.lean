/-
  TokensFixed.lean — the two token addresses registered in the hub are write-once: no hub message,
  by any sender (the owner included), changes one that is set.
-/
import Krp.Lemmas.Wiring
namespace Krp
open HubSt

structure TokensKept (h h' : HubSt) : Prop where
  bsei : ∀ t, h.bsei = some t → h'.bsei = some t
  stsei : ∀ t, h.stsei = some t → h'.stsei = some t

theorem TokensKept.refl (h : HubSt) : TokensKept h h := ⟨fun _ ht => ht, fun _ ht => ht⟩

theorem TokensKept.of_config {h h' : HubSt} (c : SameConfig h h') : TokensKept h h' :=
  ⟨fun t ht => by rw [c.bsei]; exact ht, fun t ht => by rw [c.stsei]; exact ht⟩

/-- only UpdateConfig writes the token addresses, and it refuses to overwrite one that is set -/
theorem hubExec_tokens (h h' : HubSt) (e : HubEnv) (sender : Addr) (funds : List (Denom × Nat))
    (m : HubMsg) (ms : List Msg) (hx : hubExec h e sender funds m = .ok (h', ms)) :
    TokensKept h h' := by
  rcases (hubExec_frame hx).2 with c | ⟨d, r, b, s, a, rw, u, _, hc⟩ | ⟨_, _, _, rfl⟩ | ⟨_, _, rfl⟩
  · exact .of_config c
  · obtain ⟨_, hb, hs, rfl, _⟩ := updateConfig_spec hc
    constructor
    · intro t ht
      cases b with
      | none => exact ht
      | some x => rw [hb rfl] at ht; cases ht
    · intro t ht
      cases s with
      | none => exact ht
      | some x => rw [hs rfl] at ht; cases ht
  all_goals exact ⟨fun _ ht => ht, fun _ ht => ht⟩

theorem handle_tokens (s s' : Sys) (m : Msg) (ms : List Msg) (hx : s.handle m = .ok (s', ms)) :
    TokensKept s.hub s'.hub := by
  rcases handle_hub_or_same hx with e | ⟨_, _, _, _, hr⟩
  · rw [e]; exact .refl _
  · exact hubExec_tokens _ _ _ _ _ _ _ hr

end Krp
