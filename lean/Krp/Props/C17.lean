/-
  C17 — Dispatcher splits rewards by bonded stake, takes a bounded fee, keeps nothing.
-/
import Krp.Lemmas.Arith
import Krp.Lemmas.Wiring
namespace Krp

/-- `get_swap_info` inverted: which coin is offered and how much, `share` being the stSei side's
    share of the total -/
theorem getSwapInfo_some (stBonded bBonded stAvail bAvail r rinv : Nat) (sellSt : Bool) (amt : Nat)
    (hx : getSwapInfo stBonded bBonded stAvail bAvail r rinv = some (sellSt, amt)) :
    let share := mulRatio (stAvail + mulDec bAvail rinv) stBonded (stBonded + bBonded)
    (sellSt = true ∧ share < stAvail ∧ amt = stAvail - share) ∨
    (sellSt = false ∧ stAvail ≤ share ∧ amt = mulDec (share - stAvail) r) := by
  unfold getSwapInfo at hx
  split at hx
  · cases hx
  · simp only [] at hx
    split at hx <;> cases hx
    · exact Or.inl ⟨rfl, ‹_›, rfl⟩
    · exact Or.inr ⟨rfl, Nat.le_of_not_lt ‹_›, rfl⟩

/-- The swap the dispatcher requests never offers more of a coin than it holds, on either branch,
    for every balance, bonded amount and oracle price (`rinv` = `Decimal::inv` of the price). -/
theorem C17_offer_le_available (stBonded bBonded stAvail bAvail r : Nat) (sellSt : Bool) (amt : Nat)
    (hx : getSwapInfo stBonded bBonded stAvail bAvail r (D * D / r) = some (sellSt, amt)) :
    (sellSt = true → amt ≤ stAvail) ∧ (sellSt = false → amt ≤ bAvail) := by
  rcases getSwapInfo_some _ _ _ _ _ _ _ _ hx with ⟨rfl, _, rfl⟩ | ⟨rfl, _, rfl⟩
  · exact ⟨fun _ => Nat.sub_le _ _, fun hf => absurd hf (by decide)⟩
  · refine ⟨fun hf => absurd hf (by decide), fun _ => buy_le_available _ _ _ ?_⟩
    have := mulRatio_le (stAvail + mulDec bAvail (D * D / r)) stBonded bBonded
    omega

/-- The stSei-side share is `total × stSei bonded / total bonded` (rounded down, totals valued at
    the oracle price): when stSei-reward coins are sold the side is left with exactly the share;
    when they are bought, what is bought (valued back at the inverse price) never overshoots it. -/
theorem C17_share (stBonded bBonded stAvail bAvail r : Nat) (sellSt : Bool) (amt : Nat)
    (hx : getSwapInfo stBonded bBonded stAvail bAvail r (D * D / r) = some (sellSt, amt)) :
    let share := mulRatio (stAvail + mulDec bAvail (D * D / r)) stBonded (stBonded + bBonded)
    (sellSt = true → stAvail - amt = share) ∧
    (sellSt = false → stAvail + mulDec amt (D * D / r) ≤ share) := by
  dsimp only
  rcases getSwapInfo_some _ _ _ _ _ _ _ _ hx with ⟨rfl, hlt, rfl⟩ | ⟨rfl, hle, rfl⟩
  · exact ⟨fun _ => by omega, fun hf => absurd hf (by decide)⟩
  · exact ⟨fun hf => absurd hf (by decide), fun _ => Nat.add_le_of_le_sub' hle (buy_back_le _ r)⟩

/-- coins of one denom leaving the dispatcher in a message list (bank sends + funds of executes) -/
def sentOf (self : Addr) (d : Denom) : List Msg → Nat
  | [] => 0
  | Msg.bankSend s _ dn a :: ms => (if s = self ∧ dn = d then a else 0) + sentOf self d ms
  | Msg.wasm s _ _ fs :: ms =>
      (if s = self then ((fs.filter (fun f => f.1 = d)).map (·.2)).sum else 0) + sentOf self d ms
  | _ :: ms => sentOf self d ms

theorem sentOf_append (self : Addr) (d : Denom) (x y : List Msg) :
    sentOf self d (x ++ y) = sentOf self d x + sentOf self d y := by
  induction x with
  | nil => simp [sentOf]
  | cons m ms ih => cases m <;> simp only [List.cons_append, sentOf, ih] <;> omega

/-- DispatchRewards, for every balance and every keeper rate in [0,1]: it never fails on its own
    arithmetic, the keeper is sent exactly ⌊balance × rate⌋ of each coin first, and the sum of
    everything sent equals the balance held — nothing is kept. -/
theorem C17_dispatch_conserves (c : DispSt) (self : Addr) (stBal bBal : Nat)
    (hrate : c.keeperRate ≤ D) (hden : c.stDenom ≠ c.bDenom) :
    ∃ ms, dispatchMsgs c self stBal bBal = .ok ms ∧
      sentOf self c.bDenom ms = bBal ∧ sentOf self c.stDenom ms = stBal ∧
      (bBal ≠ 0 → Msg.bankSend self c.keeper c.bDenom (mulDec bBal c.keeperRate) ∈ ms) ∧
      (stBal ≠ 0 → Msg.bankSend self c.keeper c.stDenom (mulDec stBal c.keeperRate) ∈ ms) ∧
      Msg.wasm self c.rewardContract (.reward .updateGlobalIndex) [] ∈ ms := by
  have hb := mulDec_le bBal c.keeperRate hrate
  have hs := mulDec_le stBal c.keeperRate hrate
  have hden' : c.bDenom ≠ c.stDenom := fun e => hden e.symm
  have e1 : coinMsgsB c self bBal = .ok (if bBal = 0 then [] else
      [Msg.bankSend self c.keeper c.bDenom (mulDec bBal c.keeperRate),
       Msg.bankSend self c.rewardContract c.bDenom (bBal - mulDec bBal c.keeperRate)]) := by
    unfold coinMsgsB keeperCut
    split
    · rfl
    · rw [if_neg (Nat.not_lt.mpr hb)]
  have e2 : coinMsgsSt c self stBal = .ok (if stBal = 0 then [] else
      if stBal - mulDec stBal c.keeperRate = 0 then
        [Msg.bankSend self c.keeper c.stDenom (mulDec stBal c.keeperRate)]
      else [Msg.bankSend self c.keeper c.stDenom (mulDec stBal c.keeperRate),
            Msg.wasm self c.hub (.hub .bondRewards) [(c.stDenom, stBal - mulDec stBal c.keeperRate)]]) := by
    unfold coinMsgsSt keeperCut
    split
    · rfl
    · rw [if_neg (Nat.not_lt.mpr hs)]
      split <;> rfl
  unfold dispatchMsgs
  rw [e1, e2]
  refine ⟨_, rfl, ?_⟩
  by_cases h2 : stBal = 0
  · by_cases h1 : bBal = 0
    · simp [sentOf, h1, h2]
    · simp [sentOf, h1, h2, hden']; omega
  · by_cases h1 : bBal = 0 <;> by_cases h3 : stBal - mulDec stBal c.keeperRate = 0 <;>
      simp [sentOf, h1, h2, h3, hden, hden'] <;> omega

private theorem coinB_nozero (c : DispSt) (self : Addr) (bBal : Nat) (m : List Msg)
    (hx : coinMsgsB c self bBal = .ok m)
    (hb : bBal = 0 ∨ (0 < mulDec bBal c.keeperRate ∧ mulDec bBal c.keeperRate < bBal)) :
    ∀ s d dn, Msg.bankSend s d dn 0 ∉ m := by
  intro s d dn hmem
  unfold coinMsgsB keeperCut at hx
  exc_split at hx
  · simp at hmem
  · simp at hmem; omega

private theorem coinSt_nozero (c : DispSt) (self : Addr) (stBal : Nat) (m : List Msg)
    (hx : coinMsgsSt c self stBal = .ok m)
    (hs : stBal = 0 ∨ 0 < mulDec stBal c.keeperRate) :
    ∀ s d dn, Msg.bankSend s d dn 0 ∉ m := by
  intro s d dn hmem
  unfold coinMsgsSt keeperCut at hx
  exc_split at hx
  · simp at hmem
  · simp at hmem; omega
  · simp at hmem; omega

/-- No zero transfer — partial: when every non-zero balance has a positive keeper cut and a positive
    remainder, no message carries a zero amount. (Full statement fails: D3, below.) -/
theorem C17_no_zero_transfer_partial (c : DispSt) (self : Addr) (stBal bBal : Nat) (ms : List Msg)
    (hx : dispatchMsgs c self stBal bBal = .ok ms)
    (hb : bBal = 0 ∨ (0 < mulDec bBal c.keeperRate ∧ mulDec bBal c.keeperRate < bBal))
    (hs : stBal = 0 ∨ 0 < mulDec stBal c.keeperRate) :
    ∀ s d dn, Msg.bankSend s d dn 0 ∉ ms := by
  intro s d dn hmem
  unfold dispatchMsgs at hx
  split at hx
  · cases hx
  · rename_i m1 h1
    split at hx
    · cases hx
    · rename_i m2 h2
      injection hx with hx; subst hx
      simp only [List.mem_append, List.mem_singleton] at hmem
      rcases hmem with (hm | hm) | hm
      · exact coinB_nozero c self bBal m1 h1 hb s d dn hm
      · exact coinSt_nozero c self stBal m2 h2 hs s d dn hm
      · cases hm

/-- D3: with keeper rate 0 (allowed: the range check is rate ≤ 1) a balance of 5 produces a bank
    send of 0 coins to the keeper, which the bank rejects — dispatch, and with it the whole index
    update, fails. Same with a dust balance (⌊1 × 0.05⌋ = 0) and with rate 1 (remainder 0). -/
theorem C17_zero_transfer_counterexample :
    (∀ c : DispSt, c.keeperRate = 0 → c.bDenom = 1 → c.stDenom = 0 →
      ∃ ms, dispatchMsgs c 104 0 5 = .ok ms ∧ Msg.bankSend 104 c.keeper 1 0 ∈ ms) ∧
    mulDec 1 (D / 20) = 0 ∧ 5 - mulDec 5 D = 0 := by
  refine ⟨fun c h1 h2 h3 => ?_, by decide, by decide⟩
  simp [dispatchMsgs, coinMsgsB, coinMsgsSt, h1, h2, keeperCut, mulDec]

/-- The keeper rate can never be configured above 1: not at instantiate, not by any update. -/
theorem C17_keeper_rate_le_one :
    (∀ sender hub reward sd bd keeper rate swap oracle ds c,
      dispInit sender hub reward sd bd keeper rate swap oracle ds = .ok c → c.keeperRate ≤ D) ∧
    (∀ (c c' : DispSt) self env sender m ms, c.keeperRate ≤ D →
      dispExec c self env sender m = .ok (c', ms) → c'.keeperRate ≤ D) := by
  constructor
  · intro sender hub reward sd bd keeper rate swap oracle ds c hx
    unfold dispInit at hx
    split at hx
    · cases hx
    · injection hx with hx; subst hx; simp only []; omega
  · intro c c' self env sender m ms hle hx
    have sp := dispExec_spec hx
    cases m with
    | updateConfig hub reward sd bd k rate =>
      obtain ⟨_, _, hk, _, rfl⟩ := sp
      cases rate with
      | none => exact hle
      | some x => exact hk x rfl
    | swap | dispatch => rw [sp.2]; exact hle
    | setOwner | acceptOwnership | updateSwapContract | updateSwapDenom | updateOracle =>
      rw [sp.2.2]; exact hle

/-- The swap list holds the denominations the owner named, as named: an accepted UpdateSwapDenom
    with `is_add` puts exactly that denomination on the list (every other entry stays), one without
    takes exactly that denomination off (every other entry stays); nothing else of the
    configuration moves. `convert_to_target_denoms` matches the list verbatim against the coins
    the dispatcher holds, so this is what makes a coin of a listed denomination a reward coin. -/
theorem C17_swap_list_update (c c' : DispSt) (self : Addr) (env : DispEnv) (sender : Addr) (d : Denom) (add : Bool)
    (ms : List Msg) (hx : dispExec c self env sender (.updateSwapDenom d add) = .ok (c', ms)) :
    (add = true → c'.swapDenoms.contains d = true) ∧
    (add = false → c'.swapDenoms.contains d = false) ∧
    (∀ x, x ≠ d → c'.swapDenoms.contains x = c.swapDenoms.contains x) ∧
    c'.hub = c.hub ∧ c'.rewardContract = c.rewardContract ∧ c'.stDenom = c.stDenom ∧ c'.bDenom = c.bDenom ∧
    c'.keeper = c.keeper ∧ c'.keeperRate = c.keeperRate ∧ c'.owner = c.owner ∧ ms = [] := by
  obtain ⟨_, rfl, rfl⟩ := dispExec_spec hx
  cases add with
  | true =>
    refine ⟨fun _ => ?_, nofun, fun x hne => ?_, rfl, rfl, rfl, rfl, rfl, rfl, rfl, rfl⟩
    · simp [List.contains_eq_mem]
    · simp only [if_pos, List.contains_eq_mem, List.mem_append, List.mem_singleton, hne, or_false]
  | false =>
    refine ⟨nofun, fun _ => ?_, fun x hne => ?_, rfl, rfl, rfl, rfl, rfl, rfl, rfl, rfl⟩
    · simp [List.contains_eq_mem, List.mem_filter]
    · simp [List.contains_eq_mem, List.mem_filter, hne]

/-! Non-vacuity: the third denomination taken off and put back on the genesis list. -/
example : ∃ c1 c2 : DispSt, ∃ e : DispEnv,
    dispExec { (default : DispSt) with owner := 1, swapDenoms := [0, 1, 2] } 104 e 1 (.updateSwapDenom 2 false) = .ok (c1, []) ∧
    dispExec c1 104 e 1 (.updateSwapDenom 2 true) = .ok (c2, []) ∧ c1.swapDenoms = [0, 1] ∧ c2.swapDenoms = [0, 1, 2] :=
  ⟨_, _, ⟨fun _ => 0, none, fun _ _ _ => none⟩, rfl, rfl, rfl, rfl⟩

end Krp
