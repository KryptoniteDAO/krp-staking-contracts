/-
  C02 — Hub never books more stake than is delegated; bonds are delegated in full.
  Delegated stake = Σ of the hub's delegations as the staking module reports them (`totalDelegated`).
-/
import Krp.Props.C03
import Krp.Lemmas.Bank
import Krp.Lemmas.Stake
namespace Krp
open HubSt

def delegatedBy : List Msg → Nat
  | [] => 0
  | Msg.delegate _ _ a :: ms => a + delegatedBy ms
  | _ :: ms => delegatedBy ms

private theorem delegatedBy_zip (self : Addr) (vs : List (Addr × Nat)) (plan : List Nat)
    (hl : plan.length = vs.length) :
    delegatedBy (zipMsgs (fun v p => Msg.delegate self v p) vs plan) = plan.sum ∧
    ∀ m ∈ zipMsgs (fun v p => Msg.delegate self v p) vs plan, ∃ v a, m = Msg.delegate self v a ∧ v ∈ vs.map (·.1) ∧ 0 < a := by
  induction vs generalizing plan with
  | nil => cases plan <;> simp_all [zipMsgs, delegatedBy]
  | cons v vs ih =>
    cases plan with
    | nil => simp at hl
    | cons p ps =>
      have := ih ps (by simpa using hl)
      simp only [zipMsgs, List.sum_cons]
      constructor
      · split
        · rename_i hp; simp only [List.nil_append, this.1, hp]; omega
        · simp only [List.singleton_append, delegatedBy, this.1]
      · intro m hm
        simp only [List.mem_append] at hm
        rcases hm with hm | hm
        · split at hm
          · simp at hm
          · rename_i hp
            simp at hm
            exact ⟨v.1, p, hm, by simp, Nat.pos_of_ne_zero hp⟩
        · obtain ⟨w, a, e1, e2, e3⟩ := this.2 m hm
          exact ⟨w, a, e1, by simp only [List.map_cons, List.mem_cons]; exact Or.inr e2, e3⟩

/-- Every coin sent with Bond / BondForStSei / BondRewards is delegated in the same transaction:
    the Delegate messages sum to exactly the payment, go only to validators the registry returned,
    and none is empty. -/
theorem C02_bond_delegated_in_full (h : HubSt) (e : HubEnv) (p : Nat) (ms : List Msg)
    (hx : h.delegMsgs e p = .ok ms) :
    delegatedBy ms = p ∧
    ∃ reg vs, h.registry = some reg ∧ e.validatorsOf reg = .ok vs ∧
      ∀ m ∈ ms, ∃ v a, m = Msg.delegate e.self v a ∧ v ∈ vs.map (·.1) ∧ 0 < a := by
  unfold delegMsgs at hx
  exc_split at hx
  rename_i _ reg hreg _ vs hvs _ _ plan hplan
  have hc := C12_deleg_conserves p _ plan.1 plan.2 (by rw [hplan])
  have hz := delegatedBy_zip e.self vs plan.2 (by simpa using hc.2.2)
  exact ⟨by rw [hz.1]; exact hc.2.1, reg, vs, hreg, hvs, hz.2⟩

/-- After every slashing check (explicit, or the one that opens bond / unbond / convert) the booked
    stake does not exceed the delegated stake. -/
theorem C02_books_le_delegated (h st : HubSt) (e : HubEnv) (hx : h.actualState e = .ok st)
    (hd : e.delegations ≠ [] ∨ h.bBond + h.sBond = 0) :
    st.bBond + st.sBond ≤ (e.delegations.map (·.2)).sum := by
  have hs := actualState_spec h st e hx
  rcases hs.2 with ⟨hc, he⟩ | ⟨bs, ss, _, _, _, _, _, _, hcase⟩
  · subst he
    rcases hc with hc | hc
    · rcases hd with hd | hd
      · exact absurd hc hd
      · omega
    · omega
  · rcases hcase with ⟨hle, hb, hsb⟩ | ⟨_, _, hsum⟩ <;> omega

/-- A bond raises the books by exactly the payment — the same amount its Delegate messages add to
    the delegations — so `delegated − booked` is unchanged by bonding. -/
theorem C02_bond_keeps_gap (h h' : HubSt) (e : HubEnv) (sender : Addr) (funds : List (Denom × Nat))
    (ms : List Msg) :
    (h.bondB e sender funds = .ok (h', ms) → ∃ st p, h.actualState e = .ok st ∧
        h'.bBond + h'.sBond = st.bBond + st.sBond + p ∧ delegatedBy ms = p) ∧
    (h.bondS e sender funds = .ok (h', ms) → ∃ st p, h.actualState e = .ok st ∧
        h'.bBond + h'.sBond = st.bBond + st.sBond + p ∧ delegatedBy ms = p) ∧
    (h.bondR e sender funds = .ok (h', ms) → ∃ st p, h.actualState e = .ok st ∧
        h'.bBond + h'.sBond = st.bBond + st.sBond + p ∧ delegatedBy ms = p) := by
  -- the mint message that follows the delegations delegates nothing
  have tail : ∀ (ds : List Msg) (x : Msg), delegatedBy [x] = 0 → delegatedBy (ds ++ [x]) = delegatedBy ds := by
    intro ds x hx
    induction ds with
    | nil => exact hx
    | cons d ds ih => cases d <;> simp only [List.cons_append, delegatedBy, ih]
  refine ⟨fun hx => ?_, fun hx => ?_, fun hx => ?_⟩
  · obtain ⟨p, st, mint, delegs, tok, _, hst, _, _, hd, _, hh, hms⟩ := bondB_spec h h' e sender funds ms hx
    refine ⟨st, p, hst, by rw [hh]; simp only []; omega, ?_⟩
    rw [hms, tail _ _ rfl]
    exact (C02_bond_delegated_in_full h e p delegs hd).1
  · obtain ⟨p, st, delegs, tok, _, hst, _, hd, _, hh, hms⟩ := bondS_spec h h' e sender funds ms hx
    refine ⟨st, p, hst, by rw [hh]; simp only []; omega, ?_⟩
    rw [hms, tail _ _ rfl]
    exact (C02_bond_delegated_in_full h e p delegs hd).1
  · obtain ⟨p, st, _, _, hst, hd, hh⟩ := bondR_spec h h' e sender funds ms hx
    exact ⟨st, p, hst, by rw [hh]; simp only []; omega, (C02_bond_delegated_in_full h e p ms hd).1⟩

/-- Each batch undelegation removes from the books exactly the amount its Undelegate messages
    undelegate. -/
theorem C02_undelegation_exact (h h' : HubSt) (e : HubEnv) (ms : List Msg)
    (hx : h.processUndelegations e = .ok (h', ms)) :
    h'.bBond + h'.sBond + undelegatedBy ms = h.bBond + h.sBond := by
  have sp := processUndelegations_spec h h' e ms hx
  have hu := C03_undelegate_messages_sum e _ ms sp.1
  omega

/-- Conversion moves value between the pools and leaves their sum, hence the gap, unchanged. -/
theorem C02_convert_keeps_sum (h h' : HubSt) (e : HubEnv) (amount : Nat) (user : Addr) (ms : List Msg) :
    (h.convertSB e amount user = .ok (h', ms) → ∃ st, h.actualState e = .ok st ∧
        h'.bBond + h'.sBond = st.bBond + st.sBond) ∧
    (h.convertBS e amount user = .ok (h', ms) → ∃ st, h.actualState e = .ok st ∧
        h'.bBond + h'.sBond = st.bBond + st.sBond) := by
  constructor
  · intro hx
    obtain ⟨st, _, _, _, _, _, hst, _, _, _, _, _, _, hle, _, hh, _⟩ := convertSB_spec h h' e amount user ms hx
    exact ⟨st, hst, by rw [hh]; simp only []; omega⟩
  · intro hx
    obtain ⟨st, _, _, _, _, _, hst, _, _, _, _, _, _, hle, _, hh, _⟩ := convertBS_spec h h' e amount user ms hx
    exact ⟨st, hst, by rw [hh]; simp only []; omega⟩

example : calculateDelegations 1000 [0, 0, 0] = some (0, [334, 333, 333]) := by decide

/-! ### Over whole transactions and histories

  Staking messages of the hub (`Delegate` / `Undelegate` with the hub as delegator) are emitted at
  the front of a handler's message list and therefore executed before anything else.  The
  invariant carried through the message queue is

      booked stake + pending hub undelegations ≤ delegated stake + pending hub delegations

  with the pending staking messages forming a prefix of the queue. -/

def isStake : Msg → Bool
  | .delegate d _ _ => d == hubA
  | .undelegate d _ _ => d == hubA
  | _ => false

def isOut : Msg → Bool
  | .bankSend src _ _ _ => src == hubA
  | .delegate who _ _ => who == hubA
  | .wasm s _ _ f => s == hubA && !f.isEmpty
  | _ => false

def delSum : List Msg → Nat
  | [] => 0
  | m :: ms => (match m with | .delegate d _ a => if d = hubA then a else 0 | _ => 0) + delSum ms

def undelSum : List Msg → Nat
  | [] => 0
  | m :: ms => (match m with | .undelegate d _ a => if d = hubA then a else 0 | _ => 0) + undelSum ms

/-- staking-denom coins message `m` takes out of the hub's account -/
def hubOut : Msg → Nat
  | .bankSend src _ d amt => if src = hubA ∧ d = 0 then amt else 0
  | .delegate who _ amt => if who = hubA then amt else 0
  | .wasm s _ _ f => if s = hubA then fundsOf 0 f else 0
  | _ => 0

def hubOutAll (q : List Msg) : Nat := (q.map hubOut).sum

theorem delSum_append (x y : List Msg) : delSum (x ++ y) = delSum x + delSum y := by
  induction x with
  | nil => simp [delSum]
  | cons m ms ih => simp only [List.cons_append, delSum, ih]; omega

theorem undelSum_append (x y : List Msg) : undelSum (x ++ y) = undelSum x + undelSum y := by
  induction x with
  | nil => simp [undelSum]
  | cons m ms ih => simp only [List.cons_append, undelSum, ih]; omega

theorem noStake_sums (q : List Msg) (h : ∀ m ∈ q, isStake m = false) : delSum q = 0 ∧ undelSum q = 0 := by
  induction q with
  | nil => exact ⟨rfl, rfl⟩
  | cons m ms ih =>
    have hm := h m (List.mem_cons_self ..)
    obtain ⟨hd, hu⟩ := ih (fun x hx => h x (List.mem_cons_of_mem _ hx))
    cases m with
    | delegate d v a => exact ⟨by simp only [delSum, if_neg (ne_of_beq_false hm), hd], by simp only [undelSum, hu]⟩
    | undelegate d v a => exact ⟨by simp only [delSum, hd], by simp only [undelSum, if_neg (ne_of_beq_false hm), hu]⟩
    | _ => exact ⟨by simp only [delSum, hd], by simp only [undelSum, hu]⟩

theorem sentBy_noStake (a : Addr) (ha : a ≠ hubA) (ms : List Msg) (h : SentBy a ms) :
    ∀ m ∈ ms, isStake m = false := by
  intro m hm
  have hs : m.sentFrom ≠ hubA := by rw [h m hm]; exact ha
  cases m with
  | delegate d v x | undelegate d v x => exact beq_false_of_ne hs
  | _ => rfl

theorem delegates_tally (l : List Msg) (h : ∀ m ∈ l, ∃ v a, m = Msg.delegate hubA v a) :
    delSum l = delegatedBy l ∧ undelSum l = 0 ∧ hubOutAll l = delegatedBy l := by
  induction l with
  | nil => exact ⟨rfl, rfl, rfl⟩
  | cons m ms ih =>
    obtain ⟨v, a, rfl⟩ := h _ (List.mem_cons_self ..)
    obtain ⟨hd, hu, ho⟩ := ih (fun x hx => h x (List.mem_cons_of_mem _ hx))
    refine ⟨by simp only [delSum, delegatedBy, if_true, hd], by simp only [undelSum, hu], ?_⟩
    show (if hubA = hubA then a else 0) + hubOutAll ms = _
    rw [if_pos rfl, ho]
    rfl

theorem undelegates_tally (l : List Msg) (h : ∀ m ∈ l, ∃ v a, m = Msg.undelegate hubA v a) :
    undelSum l = undelegatedBy l ∧ delSum l = 0 := by
  induction l with
  | nil => exact ⟨rfl, rfl⟩
  | cons m ms ih =>
    obtain ⟨v, a, rfl⟩ := h _ (List.mem_cons_self ..)
    obtain ⟨hu, hd⟩ := ih (fun x hx => h x (List.mem_cons_of_mem _ hx))
    exact ⟨by simp only [undelSum, undelegatedBy, if_true, hu], by simp only [delSum, hd]⟩

theorem delegs_stake (h : HubSt) (e : HubEnv) (p : Nat) (ms : List Msg) (he : e.self = hubA)
    (hx : h.delegMsgs e p = .ok ms) :
    (∀ m ∈ ms, isStake m = true) ∧ delSum ms = p ∧ undelSum ms = 0 := by
  have shape : ∀ m ∈ ms, ∃ v a, m = Msg.delegate hubA v a := fun m hm => he ▸ delegMsgs_mem hx hm
  obtain ⟨hd, hu, _⟩ := delegates_tally ms shape
  refine ⟨fun m hm => ?_, by rw [hd]; exact (C02_bond_delegated_in_full h e p ms hx).1, hu⟩
  obtain ⟨v, a, rfl⟩ := shape m hm
  rfl

theorem undelegs_stake (e : HubEnv) (claim : Nat) (ms : List Msg) (he : e.self = hubA)
    (hx : pickValidator e claim = .ok ms) :
    (∀ m ∈ ms, isStake m = true) ∧ undelSum ms = claim ∧ delSum ms = 0 := by
  have shape : ∀ m ∈ ms, ∃ v a, m = Msg.undelegate hubA v a := fun m hm => he ▸ pickValidator_mem hx hm
  obtain ⟨hu, hd⟩ := undelegates_tally ms shape
  refine ⟨fun m hm => ?_, by rw [hu]; exact C03_undelegate_messages_sum e claim ms hx, hd⟩
  obtain ⟨v, a, rfl⟩ := shape m hm
  rfl

/-- What one hub message does to the books and to `prev_hub_balance`, and which staking messages
    and payouts it emits, relative to the state `st` its handler starts from. -/
inductive HubMoves (h h' : HubSt) (e : HubEnv) (sender : Addr) (funds : List (Denom × Nat)) (ms : List Msg)
    (st : HubSt) : Prop
  /-- a bond adds the payment to the books and delegates it -/
  | bond (p : Nat) (dl rest : List Msg) (hpay : paymentOf funds = .ok p) (hd : h.delegMsgs e p = .ok dl)
      (hms : ms = dl ++ rest) (hrest : ∀ y ∈ rest, isStake y = false ∧ isOut y = false)
      (books : h'.bBond + h'.sBond = st.bBond + st.sBond + p) (prev : h'.prevHubBalance = st.prevHubBalance)
  /-- an unbond that closes the batch takes the undelegated amount off the books -/
  | batch (claim : Nat) (um : List Msg) (burn : Msg) (hu : pickValidator e claim = .ok um) (hms : ms = um ++ [burn])
      (hburn : isStake burn = false ∧ isOut burn = false)
      (books : h'.bBond + h'.sBond + claim = st.bBond + st.sBond) (prev : h'.prevHubBalance = st.prevHubBalance)
  /-- a withdrawal sets the payout aside from the balance before `prev_hub_balance` is rewritten -/
  | pay (amt : Nat) (hms : ms = [.bankSend e.self sender 0 amt]) (hle : amt ≤ e.hubBalance)
      (books : h'.bBond + h'.sBond = st.bBond + st.sBond) (prev : h'.prevHubBalance = e.hubBalance - amt)
  | quiet (hms : ∀ y ∈ ms, isStake y = false ∧ isOut y = false)
      (books : h'.bBond + h'.sBond = st.bBond + st.sBond) (prev : h'.prevHubBalance = st.prevHubBalance)

/-- `st` is the state after the slashing check for a handler that opens with one, else the stored state. -/
theorem hubExec_moves {h h' : HubSt} {e : HubEnv} {sender : Addr} {funds : List (Denom × Nat)} {m : HubMsg}
    {ms : List Msg} (he : e.self = hubA) (hx : hubExec h e sender funds m = .ok (h', ms)) :
    ∃ st, (h.actualState e = .ok st ∨
        st = h ∧ m ≠ .bond ∧ m ≠ .bondForStSei ∧ (∀ u a k, m ≠ .receive u a k) ∧ m ≠ .bondRewards) ∧
      HubMoves h h' e sender funds ms st := by
  have out := hubExec_out hx
  rw [he] at out
  have tok : ∀ (t : Addr) (tm : TokMsg), isStake (tokMsg e.self t tm) = false ∧ isOut (tokMsg e.self t tm) = false :=
    fun _ _ => by rw [he]; exact ⟨rfl, rfl⟩
  have unbond : ∀ (st x : HubSt) (burn : Msg), x.bBond + x.sBond = st.bBond + st.sBond →
      x.prevHubBalance = st.prevHubBalance → isStake burn = false ∧ isOut burn = false →
      (∃ um, x.processUndelegations e = .ok (h', um) ∧ ms = um ++ [burn]) ∨ (h' = x ∧ ms = [burn]) →
      HubMoves h h' e sender funds ms st := by
    intro st x burn hb hp hburn hcase
    rcases hcase with ⟨um, hpu, hm⟩ | ⟨rfl, rfl⟩
    · have sp := processUndelegations_spec _ _ _ _ hpu
      exact .batch _ um burn sp.1 hm hburn (by omega) (sp.2.2.2.2.2.2.2.2.2.2.2.2.2.2.2.1.trans hp)
    · exact .quiet (List.forall_mem_singleton.mpr hburn) hb hp
  cases hubExec_route hx with
  | bond _ hb =>
    obtain ⟨p, st, _, dl, t, hpay, hst, _, _, hd, _, rfl, hm⟩ := bondB_spec _ _ _ _ _ _ hb
    exact ⟨st, .inl hst, .bond p dl _ hpay hd hm (List.forall_mem_singleton.mpr (tok _ _)) (Nat.add_right_comm ..) rfl⟩
  | bondForStSei _ hb =>
    obtain ⟨p, st, dl, t, hpay, hst, _, hd, _, rfl, hm⟩ := bondS_spec _ _ _ _ _ _ hb
    exact ⟨st, .inl hst, .bond p dl _ hpay hd hm (List.forall_mem_singleton.mpr (tok _ _)) (Nat.add_assoc ..).symm rfl⟩
  | bondRewards _ hb =>
    obtain ⟨p, st, _, hpay, hst, hd, rfl⟩ := bondR_spec _ _ _ _ _ _ hb
    exact ⟨st, .inl hst, .bond p ms [] hpay hd (List.append_nil ms).symm (fun _ h => nomatch h)
      (Nat.add_assoc ..).symm rfl⟩
  | unbondB user amt _ _ _ _ hb =>
    obtain ⟨st, supply, wf, t, hst, _, _, _, _, _, hcase⟩ := unbondB_spec _ _ _ _ _ _ hb
    exact ⟨st, .inl hst, unbond st (st.afterUnbondB user supply amt wf) _ rfl rfl (tok t _) (hcase.imp And.right And.right)⟩
  | unbondS user amt _ _ _ _ _ hb =>
    obtain ⟨st, t, hst, _, _, hcase⟩ := unbondS_spec _ _ _ _ _ _ hb
    exact ⟨st, .inl hst, unbond st (st.afterUnbondS user amt) _ rfl rfl (tok t _) (hcase.imp And.right And.right)⟩
  | convertBS user amt _ _ _ _ hb =>
    obtain ⟨st, _, _, _, _, _, hst, _, _, _, _, _, _, hle, _, rfl, _⟩ := convertBS_spec _ _ _ _ _ _ hb
    exact ⟨st, .inl hst, .quiet (fun y hy => by cases out y hy <;> exact ⟨rfl, rfl⟩) (by simp only []; omega) rfl⟩
  | convertSB user amt _ _ _ _ _ hb =>
    obtain ⟨st, _, _, _, _, _, hst, _, _, _, _, _, _, hle, _, rfl, _⟩ := convertSB_spec _ _ _ _ _ _ hb
    exact ⟨st, .inl hst, .quiet (fun y hy => by cases out y hy <;> exact ⟨rfl, rfl⟩) (by simp only []; omega) rfl⟩
  | checkSlashing _ hst _ => exact ⟨h', .inl hst, .quiet (fun y hy => by cases out y hy) rfl rfl⟩
  -- the other handlers start from the stored state and leave the books alone
  | withdrawUnbonded _ hw =>
    obtain ⟨_, h1, hp, _, hle, rfl, rfl⟩ := withdraw_spec _ _ _ _ _ hw
    obtain ⟨_, _, rfl⟩ := processWithdrawRate_shape hp
    refine ⟨h, .inr ⟨rfl, nofun, nofun, nofun, nofun⟩, .pay _ rfl hle ?_ rfl⟩
    exact foldl_keeps (fun x : HubSt => x.bBond + x.sBond) (fun hh i => hh.delWait sender i) (fun _ _ => rfl) _ _
  | migrate limit _ hh _ =>
    obtain ⟨_, _, _, _, _, _, e1⟩ := h.migrate_shape limit
    rw [e1] at hh
    subst hh
    exact ⟨h, .inr ⟨rfl, nofun, nofun, nofun, nofun⟩, .quiet (fun y hy => by cases out y hy) rfl rfl⟩
  | params _ _ _ _ _ _ hp _ =>
    obtain ⟨_, _, _, rfl⟩ := updateParams_spec hp
    exact ⟨h, .inr ⟨rfl, nofun, nofun, nofun, nofun⟩, .quiet (fun y hy => by cases out y hy) rfl rfl⟩
  | updateGlobalIndex _ hb =>
    obtain ⟨_, _, _, _, rfl⟩ := updateGlobal_spec hb
    exact ⟨h, .inr ⟨rfl, nofun, nofun, nofun, nofun⟩, .quiet (fun y hy => by cases out y hy <;> exact ⟨rfl, rfl⟩) rfl rfl⟩
  | updateConfig _ _ _ _ _ _ _ _ hb =>
    obtain ⟨_, _, _, rfl, _⟩ := updateConfig_spec hb
    exact ⟨h, .inr ⟨rfl, nofun, nofun, nofun, nofun⟩, .quiet (fun y hy => by cases out y hy <;> exact ⟨rfl, rfl⟩) rfl rfl⟩
  | setOwner _ _ _ hh _ | acceptOwnership _ _ hh _ | swapHook _ _ hh _ | claimAirdrop _ _ hh _
  | redelegateProxy _ _ _ _ hh _ =>
    subst hh
    exact ⟨_, .inr ⟨rfl, nofun, nofun, nofun, nofun⟩, .quiet (fun y hy => by cases out y hy <;> exact ⟨rfl, rfl⟩) rfl rfl⟩

/-- `T` = the delegated stake the hub sees. Second alternative of `hinv`: the books may be stale
    (above `T`, after a slash) for a handler that starts with the slashing check, which brings them
    within `T` as long as a delegation object exists. -/
theorem hub_books_stepG (h h' : HubSt) (e : HubEnv) (sender : Addr) (funds : List (Denom × Nat))
    (m : HubMsg) (ms : List Msg) (T : Nat) (he : e.self = hubA)
    (hT : (e.delegations.map (·.2)).sum = T)
    (hinv : h.bBond + h.sBond ≤ T ∨ ((m = .bond ∨ m = .bondForStSei ∨ (∃ u a k, m = .receive u a k) ∨ m = .bondRewards) ∧
      e.delegations ≠ [] ∧ h.bBond + h.sBond ≠ 0))
    (hx : hubExec h e sender funds m = .ok (h', ms)) :
    ∃ pre rest, ms = pre ++ rest ∧ (∀ x ∈ pre, isStake x = true) ∧ (∀ x ∈ rest, isStake x = false) ∧
      h'.bBond + h'.sBond + undelSum pre ≤ T + delSum pre := by
  obtain ⟨st, hopen, mv⟩ := hubExec_moves he hx
  have hst : st.bBond + st.sBond ≤ T := by
    rcases hopen with hst | ⟨rfl, hn⟩
    · -- the slashing check keeps or lowers the books
      rcases (actualState_spec h st e hst).2 with ⟨hdeg, rfl⟩ | ⟨bs, ss, _, _, _, _, _, _, hcase⟩
      · rcases hinv with h1 | ⟨_, h2, h3⟩
        · exact h1
        · exact (hdeg.elim h2 h3).elim
      · rcases hcase with ⟨_, hb, hsb⟩ | ⟨_, _, hsum⟩ <;> omega
    · -- a handler that does not start with the slashing check finds the books within `T`
      rcases hinv with h1 | ⟨r | r | ⟨u, a, k, r⟩ | r, _⟩
      · exact h1
      · exact absurd r hn.1
      · exact absurd r hn.2.1
      · exact absurd r (hn.2.2.1 u a k)
      · exact absurd r hn.2.2.2
  cases mv with
  | bond p dl rest _ hd hms hrest books _ =>
    have ds := delegs_stake h e p dl he hd
    exact ⟨dl, rest, hms, ds.1, fun y hy => (hrest y hy).1, by rw [books, ds.2.1, ds.2.2]; omega⟩
  | batch claim um burn hu hms hburn books _ =>
    have us := undelegs_stake e claim um he hu
    exact ⟨um, [burn], hms, us.1, List.forall_mem_singleton.mpr hburn.1, by rw [us.2.1, us.2.2]; omega⟩
  | pay amt hms _ books _ =>
    exact ⟨[], ms, rfl, (fun _ h => nomatch h), by rw [hms]; exact List.forall_mem_singleton.mpr rfl,
      by show _ + 0 ≤ _ + 0; omega⟩
  | quiet hq books _ =>
    exact ⟨[], ms, rfl, (fun _ h => nomatch h), fun y hy => (hq y hy).1, by show _ + 0 ≤ _ + 0; omega⟩

theorem hub_books_step (h h' : HubSt) (e : HubEnv) (sender : Addr) (funds : List (Denom × Nat))
    (m : HubMsg) (ms : List Msg) (T : Nat) (he : e.self = hubA)
    (hT : (e.delegations.map (·.2)).sum = T) (hinv : h.bBond + h.sBond ≤ T)
    (hx : hubExec h e sender funds m = .ok (h', ms)) :
    ∃ pre rest, ms = pre ++ rest ∧ (∀ x ∈ pre, isStake x = true) ∧ (∀ x ∈ rest, isStake x = false) ∧
      h'.bBond + h'.sBond + undelSum pre ≤ T + delSum pre :=
  hub_books_stepG h h' e sender funds m ms T he hT (Or.inl hinv) hx

/-! A queue that starts with pending messages (`p`) followed by messages with `q = false`, and a
    fact `P` about the pending part: how it looks from the head of the queue. -/

theorem pending_nil {p q : Msg → Bool} {P : List Msg → Prop}
    (h : ∃ A rest, [] = A ++ rest ∧ (∀ x ∈ A, p x = true) ∧ (∀ x ∈ rest, q x = false) ∧ P A) : P [] := by
  obtain ⟨A, rest, hq, _, _, hp⟩ := h
  cases A with
  | nil => exact hp
  | cons a t => cases hq

theorem pending_cons {p q : Msg → Bool} {P : List Msg → Prop} {m : Msg} {rest0 : List Msg}
    (h : ∃ A rest, m :: rest0 = A ++ rest ∧ (∀ x ∈ A, p x = true) ∧ (∀ x ∈ rest, q x = false) ∧ P A) :
    (p m = true ∧ ∃ A rest, rest0 = A ++ rest ∧ (∀ x ∈ A, p x = true) ∧ (∀ x ∈ rest, q x = false) ∧ P (m :: A)) ∨
    (q m = false ∧ (∀ x ∈ rest0, q x = false) ∧ P []) := by
  obtain ⟨A, rest, hq, hA, hrest, hp⟩ := h
  cases A with
  | nil =>
    obtain rfl : rest = m :: rest0 := hq.symm
    exact .inr ⟨hrest m (List.mem_cons_self ..), fun x hx => hrest x (List.mem_cons_of_mem _ hx), hp⟩
  | cons a A' =>
    obtain ⟨rfl, rfl⟩ := List.cons.inj hq
    exact .inl ⟨hA m (List.mem_cons_self ..), A', rest, rfl, fun x hx => hA x (List.mem_cons_of_mem _ hx), hrest, hp⟩

/-- the books stay within the delegations once the hub's pending staking messages (a prefix of the
    queue) have run -/
structure BookInv (s : Sys) (q : List Msg) : Prop where
  chain : ChainOK s
  split : ∃ pre rest, q = pre ++ rest ∧ (∀ x ∈ pre, isStake x = true) ∧ (∀ x ∈ rest, isStake x = false) ∧
    s.hub.bBond + s.hub.sBond + undelSum pre ≤ totalDelegated s + delSum pre

theorem BookInv.drained {s : Sys} (h : BookInv s []) : s.hub.bBond + s.hub.sBond ≤ totalDelegated s := by
  simpa [undelSum, delSum] using pending_nil h.split

theorem BookInv.step (s s' : Sys) (m : Msg) (rest0 subs : List Msg)
    (inv : BookInv s (m :: rest0)) (hx : s.handle m = .ok (s', subs)) : BookInv s' (subs ++ rest0) := by
  have c := inv.chain
  rcases pending_cons inv.split with ⟨hst, pre', rest, rfl, tail, hrest, hle⟩ | ⟨hst, hr0, hle⟩
  · -- the head is one of the hub's pending staking messages: both sides move together
    cases m with
    | delegate who v amt =>
      obtain ⟨rfl, _, hv, _, rfl, hs'⟩ := handle_delegate hx
      obtain ⟨c', ht⟩ := c.restake (s' := s') hv (b := true) nofun (by rw [hs']) (by rw [hs'])
      refine ⟨c', pre', rest, rfl, tail, hrest, ?_⟩
      simp only [undelSum, delSum, if_true] at hle
      rw [show s'.hub = s.hub by rw [hs']]
      omega
    | undelegate who v amt =>
      obtain ⟨rfl, hz, hle', _, rfl, hs'⟩ := handle_undelegate hx
      have hv := c.mem_of_pos (v := v) (by omega)
      obtain ⟨c', ht⟩ := c.restake (s' := s') (x := s.chain.deleg v - amt)
        (b := decide (s.chain.deleg v - amt > 0)) hv (by simp) (by rw [hs']) (by rw [hs'])
      refine ⟨c', pre', rest, rfl, tail, hrest, ?_⟩
      simp only [undelSum, delSum, if_true] at hle
      rw [show s'.hub = s.hub by rw [hs']]
      omega
    | _ => cases hst
  · -- the head is not a staking message: nothing is pending
    have hb : s.hub.bBond + s.hub.sBond ≤ totalDelegated s := by simpa [undelSum, delSum] using hle
    have fin : ∀ pre rest', subs = pre ++ rest' → ChainOK s' → (∀ x ∈ pre, isStake x = true) →
        (∀ x ∈ rest', isStake x = false) →
        s'.hub.bBond + s'.hub.sBond + undelSum pre ≤ totalDelegated s' + delSum pre →
        BookInv s' (subs ++ rest0) := by
      intro pre rest' he c' hp hr hle'
      refine ⟨c', pre, rest' ++ rest0, by rw [he, List.append_assoc], hp, ?_, hle'⟩
      intro x hx'
      rcases List.mem_append.mp hx' with h | h
      · exact hr x h
      · exact hr0 x h
    -- stake and books untouched, nothing staking emitted
    have same : s'.hub = s.hub → s'.chain.deleg = s.chain.deleg → s'.chain.delegSet = s.chain.delegSet →
        (∀ x ∈ subs, isStake x = false) → BookInv s' (subs ++ rest0) := fun hh hd hds hsub =>
      fin [] subs rfl (c.of_eq hd hds) (fun _ h => nomatch h) hsub (by unfold totalDelegated; rw [hh, hd]; exact hle)
    cases m with
    | bankSend src dst d amt =>
      obtain ⟨hm, rfl⟩ := handle_bankSend hx
      obtain ⟨_, _, rfl⟩ := bankMove_ok hm
      exact same rfl rfl rfl (fun _ h => nomatch h)
    | delegate who v amt =>
      obtain ⟨rfl, _⟩ := handle_delegate hx
      cases hst
    | undelegate who v amt =>
      obtain ⟨rfl, _⟩ := handle_undelegate hx
      cases hst
    | redelegate who src dst amt =>
      obtain ⟨_, hz, hdst, hne, _, hge, rfl, hs'⟩ := handle_redelegate hx
      have hsrc := c.mem_of_pos (v := src) (by omega)
      -- off the source, then onto the destination
      obtain ⟨c1, t1⟩ := c.restake (s' := { s with chain := { s.chain with
          deleg := upd s.chain.deleg src (s.chain.deleg src - amt),
          delegSet := upd s.chain.delegSet src (decide (s.chain.deleg src - amt > 0)) } })
        (x := s.chain.deleg src - amt) (b := decide (s.chain.deleg src - amt > 0)) hsrc (by simp) rfl rfl
      obtain ⟨c2, t2⟩ := c1.restake (s' := s') hdst (b := true) nofun (by rw [hs']) (by rw [hs'])
      change _ + upd s.chain.deleg src (s.chain.deleg src - amt) dst =
        _ + (upd s.chain.deleg src (s.chain.deleg src - amt) dst + amt) at t2
      refine fin [] [] rfl c2 (fun _ h => nomatch h) (fun _ h => nomatch h) ?_
      simp only [undelSum, delSum, Nat.add_zero]
      rw [show s'.hub = s.hub by rw [hs']]
      omega
    | withdrawReward who v =>
      obtain ⟨_, _, rfl, _, _, rfl, _⟩ := handle_withdrawReward hx
      exact same rfl rfl rfl (fun _ h => nomatch h)
    | setWithdrawAddr who a =>
      obtain ⟨_, rfl, rfl⟩ := handle_setWithdrawAddr hx
      exact same rfl rfl rfl (fun _ h => nomatch h)
    | wasm a b cl d =>
      have ch := handle_wasm_chain s s' a b cl d subs hx
      have sent := (handle_sentBy s s' _ subs hx).1 a b cl d rfl
      by_cases hb' : b = hubA
      · subst hb'
        obtain ⟨s1, hm, h', rfl, hmv, hx', rfl⟩ := handle_hub hx
        have sk := moveFunds_staking _ _ _ _ _ hmv
        have c1 := c.of_eq sk.1 sk.2
        have hT : ((s1.hubEnv.delegations).map (·.2)).sum = totalDelegated s := by
          rw [delegations_sum s1 c1]; unfold totalDelegated; rw [sk.1]
        rw [(moveFunds_same _ _ _ _ _ hmv).hub] at hx'
        obtain ⟨pre, rest', hms, hp, hr, hle'⟩ := hub_books_step _ _ _ _ _ _ _ _ rfl hT hb hx'
        refine fin pre rest' hms (c.of_eq ch.1 ch.2) hp hr ?_
        unfold totalDelegated; rw [ch.1]; exact hle'
      · exact same (handle_hub_same hx (fun _ _ _ h => hb' (by cases h; rfl))) ch.1 ch.2 (sentBy_noStake b hb' subs sent)

/-- history steps other than a validator slash (which lowers the delegated stake without the hub
    knowing until its next slashing check — see `C02_direct_call_recognises`) -/
def NoSlash : Step → Prop
  | .env (.slash _ _ _) => False
  | .env _ => True
  | .tx m => isStake m = false      -- staking messages in the hub's name are only ever emitted by the hub

/-- **Every reachable state (no unrecognised slash).** From any state in which the hub books at
    most what is delegated, after any history of any length that contains no validator slash —
    any senders, any contracts, failed transactions, time, unbonding-stake slashing, reward
    accrual — the hub still books at most what is delegated. Bonds add to both sides (their
    Delegate messages run before anything else of the transaction), undelegations remove from both,
    redelegations and conversions keep both, nothing else touches either. -/
theorem C02_reachable (s : Sys) (l : List Step) (c : ChainOK s)
    (hb : s.hub.bBond + s.hub.sBond ≤ totalDelegated s) (hns : ∀ st ∈ l, NoSlash st) :
    (s.steps l).hub.bBond + (s.steps l).hub.sBond ≤ totalDelegated (s.steps l) ∧ ChainOK (s.steps l) := by
  refine steps_inv2 (fun x => x.hub.bBond + x.hub.sBond ≤ totalDelegated x ∧ ChainOK x) BookInv
    (fun _ st => NoSlash st) (fun a b r a' sb => BookInv.step a a' b r sb)
    (fun x m hi hm => ⟨hi.2, [], [m], rfl, (fun _ h => nomatch h), List.forall_mem_singleton.mpr hm,
      Nat.add_le_add_right hi.1 0⟩)
    (fun x h => ⟨h.drained, h.chain⟩) (fun x e hi he => ⟨?_, ChainOK.env x e hi.2⟩) l s ⟨hb, c⟩
    (fun pre st post he => hns st (by rw [he]; exact List.mem_append_right _ (List.mem_cons_self ..)))
  show (x.env e).hub.bBond + (x.env e).hub.sBond ≤ totalDelegated (x.env e)
  cases e with
  | slash v n d => exact he.elim
  | slashUnbonding v n d => simp only [Sys.env]; split <;> exact hi.1
  | _ => exact hi.1

/-- **Recognition after a slash.** From *any* state (however stale the books are after slashing), a
    successful transaction whose top-level message is a hub pricing entry point that starts with the
    slashing check — Bond, BondForStSei, BondRewards, CheckSlashing — ends with the booked stake at
    most the delegated stake, provided a delegation object still exists (or nothing is booked). -/
theorem C02_direct_call_recognises (s s' : Sys) (sender : Addr) (funds : List (Denom × Nat)) (hm : HubMsg)
    (c : ChainOK s) (hp : hm = .bond ∨ hm = .bondForStSei ∨ hm = .bondRewards ∨ hm = .checkSlashing)
    (hd : s.delegationsOf hubA ≠ [] ∨ s.hub.bBond + s.hub.sBond = 0)
    (hx : Sys.run 400 s [.wasm sender hubA (.hub hm) funds] = .ok s') :
    s'.hub.bBond + s'.hub.sBond ≤ totalDelegated s' := by
  simp only [Sys.run] at hx
  split at hx
  · cases hx
  · rename_i s1' subs h1
    obtain ⟨s1, hm', h', hc, hmv, hx', rfl⟩ := handle_hub h1
    cases hc
    obtain ⟨bank, rfl⟩ := moveFunds_chain hmv
    -- the hub is asked with the attached funds on its account; the stake is as before
    have hT := delegations_sum { s with chain := { s.chain with bank := bank } } ⟨c.outside, c.unset⟩
    change _ = totalDelegated s at hT
    have step : ∃ pre rest, subs = pre ++ rest ∧ (∀ x ∈ pre, isStake x = true) ∧ (∀ x ∈ rest, isStake x = false) ∧
        h'.bBond + h'.sBond + undelSum pre ≤ totalDelegated s + delSum pre := by
      have stale : hm = .bond ∨ hm = .bondForStSei ∨ hm = .bondRewards →
          s.hub.bBond + s.hub.sBond ≤ totalDelegated s ∨
          ((hm = .bond ∨ hm = .bondForStSei ∨ (∃ u a k, hm = .receive u a k) ∨ hm = .bondRewards) ∧
            s.delegationsOf hubA ≠ [] ∧ s.hub.bBond + s.hub.sBond ≠ 0) := by
        intro hb
        rcases hd with hd | hd
        · by_cases hz : s.hub.bBond + s.hub.sBond = 0
          · exact Or.inl (by omega)
          · exact Or.inr ⟨by rcases hb with r | r | r <;> simp [r], hd, hz⟩
        · exact Or.inl (by omega)
      rcases hp with hp | hp | hp | rfl
      · exact hub_books_stepG _ _ _ _ _ _ _ _ rfl hT (stale (Or.inl hp)) hx'
      · exact hub_books_stepG _ _ _ _ _ _ _ _ rfl hT (stale (Or.inr (Or.inl hp))) hx'
      · exact hub_books_stepG _ _ _ _ _ _ _ _ rfl hT (stale (Or.inr (Or.inr hp))) hx'
      · cases hubExec_route hx' with
        | checkSlashing _ hst hms =>
          have := C02_books_le_delegated s.hub h' _ hst hd
          rw [hT] at this
          exact ⟨[], [], hms, (fun _ h => nomatch h), (fun _ h => nomatch h), by show _ + 0 ≤ _ + 0; omega⟩
    obtain ⟨pre, rest, hms, hpre, hrest, hle⟩ := step
    have inv1 : BookInv { s with chain := { s.chain with bank := bank }, hub := h' } (subs ++ []) :=
      ⟨⟨c.outside, c.unset⟩, pre, rest, by rw [hms, List.append_nil], hpre, hrest, hle⟩
    exact (run_inv2 BookInv (fun a b r a' sb => BookInv.step a a' b r sb) 399 _ _ s' inv1 hx).drained

/-! Non-vacuity: the genesis state of the corpus satisfies the premises. -/
example : ChainOK genesisSys ∧ genesisSys.hub.bBond + genesisSys.hub.sBond ≤ totalDelegated genesisSys :=
  ⟨⟨fun _ _ => rfl, fun _ _ => rfl⟩, by decide⟩

/-! ### The coins reserved for unbonders are never consumed

  `prev_hub_balance` is the part of the hub's liquid balance that belongs to released unbonding
  claims.  Carried through the queue:

      prev_hub_balance + staking-denom coins about to leave the hub (its pending Delegate messages
        and claim payouts)  ≤  the hub's bank balance in the staking denom. -/

/-- the two kinds of outflow the hub emits: claim payouts and delegations -/
def isLeaf : Msg → Bool
  | .bankSend src _ _ _ => src == hubA
  | .delegate who _ _ => who == hubA
  | _ => false

theorem hubOutAll_append (x y : List Msg) : hubOutAll (x ++ y) = hubOutAll x + hubOutAll y := by simp [hubOutAll]

theorem hubOut_noOut (m : Msg) (h : isOut m = false) : hubOut m = 0 := by
  cases m with
  | wasm s t c f =>
    simp only [isOut, Bool.and_eq_false_iff, beq_eq_false_iff_ne, Bool.not_eq_false'] at h
    rcases h with h | h
    · simp [hubOut, h]
    · have : f = [] := by simpa using h
      simp [hubOut, this, fundsOf]
  | _ => simp_all [hubOut, isOut]

theorem hubOutAll_noOut (q : List Msg) (h : ∀ x ∈ q, isOut x = false) : hubOutAll q = 0 := by
  induction q with
  | nil => rfl
  | cons m ms ih =>
    have h1 := hubOut_noOut m (h m (List.mem_cons_self ..))
    have h2 := ih (fun x hx => h x (List.mem_cons_of_mem _ hx))
    simp only [hubOutAll, List.map_cons, List.sum_cons] at h2 ⊢
    omega

theorem isOut_of_sentFrom {m : Msg} (h : m.sentFrom ≠ hubA) : isOut m = false := by
  cases m with
  | bankSend src _ _ _ | delegate src _ _ => exact beq_false_of_ne h
  | wasm src _ _ f => rw [isOut, beq_false_of_ne (show src ≠ hubA from h)]; rfl
  | _ => rfl

theorem sentBy_noOut (a : Addr) (ha : a ≠ hubA) (ms : List Msg) (h : SentBy a ms) : ∀ m ∈ ms, isOut m = false :=
  fun m hm => isOut_of_sentFrom (by rw [h m hm]; exact ha)

theorem paymentOf_funds (funds : List (Denom × Nat)) (p : Nat) (hx : paymentOf funds = .ok p) :
    fundsOf 0 funds = p := by
  unfold paymentOf at hx
  split at hx
  · cases hx
  · rename_i hl
    split at hx
    · cases hx
    · rename_i c hf
      injection hx with hx
      have hc := List.find?_some hf
      cases funds with
      | nil => simp at hf
      | cons a rest =>
        cases rest with
        | nil =>
          simp only [List.find?_cons] at hf
          split at hf
          · injection hf with hf; subst hf
            simp only [decide_eq_true_eq] at hc
            simp [fundsOf, hc.1, hx]
          · cases hf
        | cons b rest' => simp at hl

theorem delegs_out (h : HubSt) (e : HubEnv) (p : Nat) (ms : List Msg) (he : e.self = hubA)
    (hx : h.delegMsgs e p = .ok ms) : (∀ m ∈ ms, isLeaf m = true) ∧ hubOutAll ms = p := by
  have shape : ∀ m ∈ ms, ∃ v a, m = Msg.delegate hubA v a := fun m hm => he ▸ delegMsgs_mem hx hm
  refine ⟨fun m hm => ?_, (delegates_tally ms shape).2.2.trans (C02_bond_delegated_in_full h e p ms hx).1⟩
  obtain ⟨v, a, rfl⟩ := shape m hm
  rfl

/-- **One hub message, on the reserved coins.** `e.hubBalance` is the hub's staking-denom bank
    balance as the handler sees it (attached funds already arrived), `B0` the balance before they
    arrived. -/
theorem hub_fund_step (h h' : HubSt) (e : HubEnv) (sender : Addr) (funds : List (Denom × Nat))
    (m : HubMsg) (ms : List Msg) (B0 : Nat) (he : e.self = hubA)
    (hB : e.hubBalance ≥ B0 + fundsOf 0 funds) (hinv : h.prevHubBalance ≤ B0)
    (hx : hubExec h e sender funds m = .ok (h', ms)) :
    ∃ pre rest, ms = pre ++ rest ∧ (∀ x ∈ pre, isLeaf x = true) ∧ (∀ x ∈ rest, isOut x = false) ∧
      h'.prevHubBalance + hubOutAll pre ≤ e.hubBalance := by
  obtain ⟨st, hopen, mv⟩ := hubExec_moves he hx
  have hst : st.prevHubBalance = h.prevHubBalance := by
    rcases hopen with hst | ⟨rfl, _⟩
    · exact (actualState_spec h st e hst).1.prev
    · rfl
  cases mv with
  | bond p dl rest hpay hd hms hrest _ prev =>
    -- a bond delegates exactly the coins that came with it
    have d := delegs_out h e p dl he hd
    have hp := paymentOf_funds funds p hpay
    exact ⟨dl, rest, hms, d.1, fun y hy => (hrest y hy).2, by rw [prev, hst, d.2]; omega⟩
  | batch claim um burn hu hms hburn _ prev =>
    -- closing the batch emits Undelegate messages, which move no coins
    refine ⟨[], ms, rfl, (fun _ h => nomatch h), ?_, by rw [prev, hst]; show _ + 0 ≤ _; omega⟩
    rw [hms]
    refine List.forall_mem_append.mpr ⟨fun y hy => ?_, List.forall_mem_singleton.mpr hburn.2⟩
    obtain ⟨v, a, rfl⟩ := pickValidator_mem hu hy
    rfl
  | pay amt hms hle _ prev =>
    refine ⟨ms, [], (List.append_nil _).symm, ?_, (fun _ h => nomatch h), ?_⟩
    · rw [hms, he]; exact List.forall_mem_singleton.mpr rfl
    · rw [hms, prev]
      simp only [hubOutAll, List.map_cons, List.map_nil, List.sum_cons, List.sum_nil, hubOut, he, and_self, if_true]
      omega
  | quiet hq _ prev =>
    exact ⟨[], ms, rfl, (fun _ h => nomatch h), fun y hy => (hq y hy).2, by rw [prev, hst]; show _ + 0 ≤ _; omega⟩

theorem isLeaf_out (m : Msg) (h : isLeaf m = true) : isOut m = true := by
  cases m <;> simp_all [isLeaf, isOut]

theorem hubOut_takes (m : Msg) : hubOut m = m.takes hubA 0 := by
  cases m <;> simp [hubOut, Msg.takes]

/-- `prev_hub_balance` stays within the hub's bank balance less what its pending payouts and
    delegations (a prefix of the queue) will take -/
structure HubFund (s : Sys) (q : List Msg) : Prop where
  split : ∃ A rest, q = A ++ rest ∧ (∀ x ∈ A, isLeaf x = true) ∧ (∀ x ∈ rest, isOut x = false) ∧
    s.hub.prevHubBalance + hubOutAll A ≤ s.chain.bank hubA 0

theorem HubFund.drained {s : Sys} (h : HubFund s []) : s.hub.prevHubBalance ≤ s.chain.bank hubA 0 := by
  simpa [hubOutAll] using pending_nil h.split

theorem HubFund.step (s s' : Sys) (m : Msg) (rest0 subs : List Msg)
    (inv : HubFund s (m :: rest0)) (hx : s.handle m = .ok (s', subs)) : HubFund s' (subs ++ rest0) := by
  have bank' : s'.chain.bank hubA 0 + hubOut m ≥ s.chain.bank hubA 0 := by
    rw [hubOut_takes]; exact handle_bank_takes hx hubA 0
  rcases pending_cons inv.split with ⟨hm, A', rest, rfl, hA', hrest, hle⟩ | ⟨hmo, hr0, hle⟩
  · -- the head is one of the hub's pending payouts / delegations: it pays out what was set aside for it
    have hchain : ∀ a b c d, m ≠ .wasm a b c d := fun a b c d h => by subst h; cases hm
    rw [handle_chain_nil hx hchain]
    refine ⟨A', rest, rfl, hA', hrest, ?_⟩
    rw [handle_hub_same hx (fun a c d => hchain a hubA c d)]
    simp only [hubOutAll, List.map_cons, List.sum_cons] at hle ⊢
    omega
  · rw [hubOut_noOut m hmo] at bank'
    have hB : s.hub.prevHubBalance ≤ s.chain.bank hubA 0 := by simpa [hubOutAll] using hle
    by_cases hub : ∃ a c d, m = .wasm a hubA c d
    · obtain ⟨sender, call, funds, rfl⟩ := hub
      obtain ⟨s1, hm, h', rfl, hmv, hx', rfl⟩ := handle_hub hx
      -- what the handler sees: the balance after the attached funds arrived
      have hB1 : s1.chain.bank hubA 0 ≥ s.chain.bank hubA 0 + fundsOf 0 funds := by
        have fl := moveFunds_flow hmv hubA 0
        rw [if_pos rfl] at fl
        by_cases hsd : hubA = sender
        · -- a self-call: it carries no funds
          subst hsd
          have hf : funds = [] := by simpa [isOut] using hmo
          subst hf
          exact Nat.le_of_eq (by simpa [fundsOf] using fl.symm)
        · rw [if_neg hsd] at fl; omega
      rw [(moveFunds_same _ _ _ _ _ hmv).hub] at hx'
      obtain ⟨pre, rest', hms, hp, hr, hle'⟩ :=
        hub_fund_step _ _ s1.hubEnv _ _ _ _ (s.chain.bank hubA 0) rfl hB1 hB hx'
      exact ⟨pre, rest' ++ rest0, by rw [hms, List.append_assoc], hp, List.forall_mem_append.mpr ⟨hr, hr0⟩, hle'⟩
    · -- no other message touches the hub's state, and what it emits is not sent by the hub
      refine ⟨[], subs ++ rest0, rfl, (fun _ h => nomatch h), List.forall_mem_append.mpr ⟨?_, hr0⟩, ?_⟩
      · intro x hx'
        cases m with
        | wasm a b c d =>
          have hb : b ≠ hubA := fun h => hub ⟨a, c, d, by rw [h]⟩
          exact sentBy_noOut b hb subs ((handle_sentBy s s' _ subs hx).1 a b c d rfl) x hx'
        | _ => rw [handle_chain_nil hx (fun _ _ _ _ h => nomatch h)] at hx'; cases hx'
      · rw [handle_hub_same hx (fun a c d h => hub ⟨a, c, d, h⟩)]
        show _ + 0 ≤ _
        omega

/-- **Every reachable state: the coins reserved for unbonders are in the hub's account.** From any
    state with `prev_hub_balance` at most the hub's liquid staking-denom balance, after any history
    of any length whose top-level messages are not sent in the hub's name — bonds, re-bonded
    rewards, conversions, index updates, withdrawals, validator removal, failed transactions,
    slashing, time — it still is: bonding delegates exactly what was paid in, nothing else spends
    the hub's coins, so `WithdrawUnbonded` never finds less than it set aside. -/
theorem C02_reserved (s : Sys) (l : List Step) (hB : s.hub.prevHubBalance ≤ s.chain.bank hubA 0)
    (hq : ∀ m, Step.tx m ∈ l → m.sentFrom ≠ hubA) :
    (s.steps l).hub.prevHubBalance ≤ (s.steps l).chain.bank hubA 0 := by
  refine steps_inv2 (fun x => x.hub.prevHubBalance ≤ x.chain.bank hubA 0) HubFund
    (fun _ st => ∀ m, st = .tx m → m.sentFrom ≠ hubA) (fun a b r a' sb => HubFund.step a a' b r sb)
    (fun x m hi hm => ⟨[], [m], rfl, (fun _ h => nomatch h),
      List.forall_mem_singleton.mpr (isOut_of_sentFrom (hm m rfl)), by simpa [hubOutAll] using hi⟩)
    (fun x h => h.drained) (fun x e hi _ => ?_) l s hB
    (fun pre st post he m hm => hq m (by rw [he, hm]; exact List.mem_append_right _ (List.mem_cons_self ..)))
  show (x.env e).hub.prevHubBalance ≤ (x.env e).chain.bank hubA 0
  cases e with
  | advance dt => simp only [Sys.env, Sys.setBank, upd_same]; omega
  | slash v n d => simp only [Sys.env]; split <;> exact hi
  | slashUnbonding v n d => simp only [Sys.env]; split <;> exact hi
  | donate a d amt =>
    simp only [Sys.env, Sys.setBank, upd]
    by_cases h1 : hubA = a <;> by_cases h2 : (0 : Denom) = d <;> simp_all <;> omega
  | _ => exact hi

example : genesisSys.hub.prevHubBalance ≤ genesisSys.chain.bank hubA 0 := by decide

end Krp
