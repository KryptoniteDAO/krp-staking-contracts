/-
  C10 — Privileged operations are rejected for every unauthorised sender.
  Decision tables stated outright: for every state, payload and sender outside the message's
  principals the handler returns an error (and by A-CHAIN-1 / C20_rejected_changes_nothing the
  transaction changes nothing).  The tables are Appendix A of DESIGN.md.
-/
import Krp.Lemmas.Wiring
namespace Krp
open HubSt

def isErr {α : Type} (r : Res α) : Prop := ∃ e, r = .error e

theorem isErr_of_not_ok {α : Type} {r : Res α} (h : ∀ a, r ≠ .ok a) : isErr r := by
  cases r with
  | error e => exact ⟨e, rfl⟩
  | ok a => exact absurd rfl (h a)

/-- who may send each hub message; `True` = public -/
def hubPrincipalOk (h : HubSt) (self sender : Addr) : HubMsg → Prop
  | .updateConfig .. | .updateParams .. | .setOwner _ => sender = h.creator
  | .acceptOwnership => sender = h.newOwner
  | .bondRewards => h.dispatcher = some sender
  | .redelegateProxy .. => h.registry = some sender
  | .updateGlobalIndex => sender = h.updater ∨ h.registry = some sender
  | .swapHook => sender = self
  | .claimAirdrop => h.airdrop = some sender
  | .receive .. => h.bsei = some sender ∨ h.stsei = some sender
  | _ => True

theorem hubExec_principal {h h' : HubSt} {e : HubEnv} {sender : Addr} {funds : List (Denom × Nat)}
    {m : HubMsg} {ms : List Msg} (hx : hubExec h e sender funds m = .ok (h', ms)) :
    hubPrincipalOk h e.self sender m := by
  cases hubExec_route hx with
  | migrate | bond | bondForStSei | withdrawUnbonded | checkSlashing => trivial
  | params _ _ _ _ _ _ hr => exact (updateParams_spec hr).1
  | updateConfig _ _ _ _ _ _ _ _ hr => exact (updateConfig_spec hr).1
  | unbondB _ _ _ _ hb | convertBS _ _ _ _ hb => exact .inl hb
  | unbondS _ _ _ _ _ _ hs | convertSB _ _ _ _ _ _ hs => exact .inr hs
  | bondRewards _ hr =>
    obtain ⟨_, _, hd, _⟩ := bondR_spec _ _ _ _ _ _ hr
    exact hd
  | updateGlobalIndex _ hr =>
    obtain ⟨_, _, hs, _⟩ := updateGlobal_spec hr
    exact hs
  | setOwner _ _ hs | acceptOwnership _ hs | swapHook _ hs => exact hs
  | claimAirdrop _ ha => exact ha
  | redelegateProxy _ _ _ hr => exact hr

/-- Hub: every privileged message fails for every sender that is not its principal, in every
    state (paused or not), for every payload and funds. -/
theorem C10_hub (h : HubSt) (e : HubEnv) (sender : Addr) (funds : List (Denom × Nat)) (m : HubMsg)
    (hno : ¬ hubPrincipalOk h e.self sender m) : isErr (hubExec h e sender funds m) :=
  isErr_of_not_ok fun _ hx => hno (hubExec_principal hx)

/-- Two-step ownership transfer of the hub: only the owner nominates, only the nominee accepts, and
    once accepted the previous owner has lost every owner right. -/
theorem C10_hub_ownership (h h1 h2 : HubSt) (e : HubEnv) (owner nominee : Addr) (ms1 ms2 : List Msg)
    (f : List (Denom × Nat))
    (hs : hubExec h e owner f (.setOwner nominee) = .ok (h1, ms1))
    (ha : hubExec h1 e nominee f .acceptOwnership = .ok (h2, ms2)) :
    owner = h.creator ∧ h1.creator = h.creator ∧ h1.newOwner = nominee ∧ h2.creator = nominee ∧
    (owner ≠ nominee → ∀ m, (∀ x, m = HubMsg.setOwner x ∨ True) →
      ¬ hubPrincipalOk h2 e.self owner (.setOwner 0) ∧
      ¬ hubPrincipalOk h2 e.self owner (.updateParams none none none none none none) ∧
      ¬ hubPrincipalOk h2 e.self owner (.updateConfig none none none none none none none)) := by
  cases hubExec_route hs with
  | setOwner _ _ ho h1e =>
    cases hubExec_route ha with
    | acceptOwnership _ _ h2e =>
      subst h1e; subst h2e
      exact ⟨ho, rfl, rfl, rfl, fun hne _ _ => ⟨hne, hne, hne⟩⟩

/-- The bSei and stSei token addresses cannot be changed once set. -/
theorem C10_token_addresses_write_once (h : HubSt) (e : HubEnv) (sender : Addr) (f : List (Denom × Nat))
    (d r b s a rw u : Option Addr)
    (hset : (b.isSome ∧ h.bsei.isSome) ∨ (s.isSome ∧ h.stsei.isSome)) :
    isErr (hubExec h e sender f (.updateConfig d r b s a rw u)) := by
  refine isErr_of_not_ok fun _ hx => ?_
  cases hubExec_route hx with
  | updateConfig _ _ _ _ _ _ _ _ hr =>
    obtain ⟨_, hb, hs, _⟩ := updateConfig_spec hr
    rcases hset with ⟨h1, h2⟩ | ⟨h1, h2⟩
    · rw [hb h1] at h2; cases h2
    · rw [hs h1] at h2; cases h2

/-- Reward contract: balance mirroring only by the bSei token registered in the hub, index update
    and swap only by the dispatcher registered in the hub, configuration only by the owner,
    acceptance only by the nominee. -/
theorem C10_reward (r : RewardSt) (self : Addr) (tk dp : Res Addr) (bb : Denom → Nat) (sender : Addr)
    (m : RewMsg)
    (hno : match m with
      | .increase .. | .decrease .. => tk ≠ .ok sender
      | .updateGlobalIndex | .swapToRewardDenom => dp ≠ .ok sender
      | .updateConfig .. | .setOwner _ | .updateSwapDenom .. => sender ≠ r.owner
      | .acceptOwnership => sender ≠ r.newOwner
      | .claim _ => False) :
    isErr (rewardExec r self tk dp bb sender m) := by
  refine isErr_of_not_ok fun _ hx => ?_
  have sp := rewardExec_spec hx
  cases m with
  | claim => exact hno
  | _ => exact hno sp.1

/-- Dispatcher: swap and dispatch only by the hub, every update only by the owner, acceptance only
    by the nominee. -/
theorem C10_dispatcher (c : DispSt) (self : Addr) (env : DispEnv) (sender : Addr) (m : DispMsg)
    (hno : match m with
      | .swap .. | .dispatch => sender ≠ c.hub
      | .acceptOwnership => sender ≠ c.newOwner
      | _ => sender ≠ c.owner) :
    isErr (dispExec c self env sender m) := by
  refine isErr_of_not_ok fun _ hx => ?_
  have sp := dispExec_spec hx
  cases m <;> exact hno sp.1

/-- Registry: AddValidator by the owner or the hub, RemoveValidator / UpdateConfig / SetOwner by the
    owner, AcceptOwnership by the nominee. (Redelegations is public, but only for an address that
    is not registered.) -/
theorem C10_registry (s : Sys) (sender : Addr) (m : RegMsg)
    (hno : match m with
      | .add _ => sender ≠ s.reg.owner ∧ sender ≠ s.reg.hub
      | .remove _ | .updateConfig _ | .setOwner _ => sender ≠ s.reg.owner
      | .acceptOwnership => sender ≠ s.reg.newOwner
      | .redelegations v => s.reg.vals.contains v = true) :
    isErr (s.regExec sender m) := by
  cases m <;> simp only [] at hno <;>
    simp only [Sys.regExec, bind, Except.bind, throw, throwThe, MonadExceptOf.throw, pure, Except.pure]
  all_goals
    rw [if_pos hno]
    exact ⟨_, rfl⟩

/-- Tokens: Mint only by the minter (the hub), Burn only by the hub — both flavours. -/
theorem C10_tokens (t : Token) (b : Block) (self : Addr) (rw : Res Addr) (hubc sender : Addr) :
    (∀ to amt, t.minter ≠ some sender →
      isErr (bseiExec t b self rw hubc sender (.mint to amt)) ∧ isErr (stseiExec t b self hubc sender (.mint to amt))) ∧
    (∀ amt, sender ≠ t.hub →
      isErr (bseiExec t b self rw hubc sender (.burn amt)) ∧ isErr (stseiExec t b self hubc sender (.burn amt))) := by
  refine ⟨fun to amt hne => ⟨?_, ?_⟩, fun amt hne => ⟨?_, ?_⟩⟩
  · exact isErr_of_not_ok fun _ hx => hne (Token.mint_ok (bsei_core _ _ _ _ _ _ _ _ _ hx)).2.1
  · exact isErr_of_not_ok fun _ hx => hne (Token.mint_ok (stsei_core _ _ _ _ _ _ _ _ hx)).2.1
  · exact isErr_of_not_ok fun _ hx => hne (core_burn (bsei_core _ _ _ _ _ _ _ _ _ hx)).1
  · exact isErr_of_not_ok fun _ hx => hne (core_burn (stsei_core _ _ _ _ _ _ _ _ hx)).1

/-! Non-vacuity: an arbitrary user is not the owner of a fresh hub. -/
example : ∃ h, hubInit 1 0 30 100 0 D 1 3 = .ok h ∧ ¬ hubPrincipalOk h 100 5 (.setOwner 5) :=
  ⟨_, rfl, by show (5 : Addr) ≠ 1; decide⟩

/-! ### An accepted UpdateConfig makes the principals it names the principals

  The tables above are relative to the configuration a contract *stores*. These say that an accepted
  UpdateConfig stores every address it names and leaves every field it does not name alone — so the
  hub the owner designates is authorised afterwards and the former one is an ordinary sender. -/

theorem C10_dispatcher_update_applies (c c' : DispSt) (self : Addr) (env : DispEnv) (sender : Addr)
    (hub reward : Option Addr) (sd bd : Option Denom) (keeper : Option Addr) (rate : Option Nat) (ms : List Msg)
    (hx : dispExec c self env sender (.updateConfig hub reward sd bd keeper rate) = .ok (c', ms)) :
    c'.hub = hub.getD c.hub ∧ c'.rewardContract = reward.getD c.rewardContract ∧
    c'.keeper = keeper.getD c.keeper ∧ c'.keeperRate = rate.getD c.keeperRate ∧
    c'.bDenom = bd.getD c.bDenom ∧ c'.stDenom = c.stDenom ∧ c'.owner = c.owner ∧ c'.newOwner = c.newOwner ∧
    c'.swapContract = c.swapContract ∧ c'.swapDenoms = c.swapDenoms ∧ c'.oracle = c.oracle ∧ ms = [] := by
  obtain ⟨_, _, _, rfl, rfl⟩ := dispExec_spec hx
  exact ⟨rfl, rfl, rfl, rfl, rfl, rfl, rfl, rfl, rfl, rfl, rfl, rfl⟩

/-- ... in particular, after the owner re-points the dispatcher — whatever else travels in the same
    message — the former hub's swap and dispatch are refused. -/
theorem C10_dispatcher_former_hub_refused (c c' : DispSt) (self : Addr) (env env' : DispEnv) (sender newHub : Addr)
    (reward : Option Addr) (sd bd : Option Denom) (keeper : Option Addr) (rate : Option Nat) (ms : List Msg)
    (hx : dispExec c self env sender (.updateConfig (some newHub) reward sd bd keeper rate) = .ok (c', ms))
    (hne : c.hub ≠ newHub) (a b : Nat) :
    isErr (dispExec c' self env' c.hub .dispatch) ∧ isErr (dispExec c' self env' c.hub (.swap a b)) := by
  have h := (C10_dispatcher_update_applies c c' self env sender _ reward sd bd keeper rate ms hx).1
  simp only [Option.getD] at h
  exact ⟨C10_dispatcher c' self env' c.hub .dispatch (by simpa [h] using hne),
         C10_dispatcher c' self env' c.hub (.swap a b) (by simpa [h] using hne)⟩

theorem C10_reward_update_applies (r r' : RewardSt) (self : Addr) (tk dp : Res Addr) (bb : Denom → Nat) (sender : Addr)
    (hub : Option Addr) (denom : Option Denom) (swap : Option Addr) (ms : List Msg)
    (hx : rewardExec r self tk dp bb sender (.updateConfig hub denom swap) = .ok (r', ms)) :
    r'.hub = hub.getD r.hub ∧ r'.rewardDenom = denom.getD r.rewardDenom ∧ r'.swapContract = swap.getD r.swapContract ∧
    r'.owner = r.owner ∧ r'.newOwner = r.newOwner ∧ ms = [] := by
  obtain ⟨_, rfl, rfl⟩ := rewardExec_spec hx
  exact ⟨rfl, rfl, rfl, rfl, rfl, rfl⟩

theorem C10_registry_update_applies (s : Sys) (r' : RegSt) (sender : Addr) (hub : Option Addr) (ms : List Msg)
    (hx : s.regExec sender (.updateConfig hub) = .ok (r', ms)) :
    r'.hub = hub.getD s.reg.hub ∧ r'.owner = s.reg.owner ∧ r'.newOwner = s.reg.newOwner ∧ r'.vals = s.reg.vals ∧ ms = [] := by
  simp only [Sys.regExec] at hx
  split at hx
  · cases hx
  · injection hx with h1; injection h1 with h1 h2; subst h1; subst h2
    exact ⟨rfl, rfl, rfl, rfl, rfl⟩

theorem C10_hub_update_applies (h h' : HubSt) (self sender : Addr)
    (disp reg bsei stsei airdrop rewards updater : Option Addr) (ms : List Msg)
    (hx : h.updateConfig self sender disp reg bsei stsei airdrop rewards updater = .ok (h', ms)) :
    (∀ d, disp = some d → h'.dispatcher = some d) ∧ (∀ g, reg = some g → h'.registry = some g) ∧
    (∀ a, airdrop = some a → h'.airdrop = some a) ∧ (∀ w, rewards = some w → h'.rewards = some w) ∧
    (∀ u, updater = some u → h'.updater = u) ∧
    (disp = none → h'.dispatcher = h.dispatcher) ∧ (reg = none → h'.registry = h.registry) ∧
    (updater = none → h'.updater = h.updater) ∧ h'.creator = h.creator := by
  obtain ⟨_, _, _, rfl, _⟩ := updateConfig_spec hx
  refine ⟨?_, ?_, ?_, ?_, ?_, ?_, ?_, ?_, rfl⟩
  all_goals intros; subst_vars; rfl

/-! ### As whole transactions

  Decision tables + atomicity: a privileged message from a non-principal is a failed transaction —
  the state of every contract and of the chain, attached funds included, is exactly what it was. -/

theorem C10_system_hub (s : Sys) (sender : Addr) (funds : List (Denom × Nat)) (hm : HubMsg)
    (hno : ¬ hubPrincipalOk s.hub hubA sender hm) :
    ∃ err, s.exec (.wasm sender hubA (.hub hm) funds) = (s, .error err) :=
  exec_rejected_hub s sender funds hm (fun e he => C10_hub s.hub e sender funds hm (by rw [he]; exact hno))

theorem C10_system_dispatcher (s : Sys) (sender : Addr) (funds : List (Denom × Nat)) (dm : DispMsg)
    (hno : match dm with
      | .swap .. | .dispatch => sender ≠ s.disp.hub
      | .acceptOwnership => sender ≠ s.disp.newOwner
      | _ => sender ≠ s.disp.owner) :
    ∃ err, s.exec (.wasm sender dispA (.disp dm) funds) = (s, .error err) :=
  exec_rejected_disp s sender funds dm (fun env => C10_dispatcher s.disp dispA env sender dm hno)

theorem C10_system_reward_owner (s : Sys) (sender : Addr) (funds : List (Denom × Nat)) (rm : RewMsg)
    (hm : (∃ a b c, rm = .updateConfig a b c) ∨ (∃ a, rm = .setOwner a) ∨ (∃ d b, rm = .updateSwapDenom d b))
    (hno : sender ≠ s.reward.owner) :
    ∃ err, s.exec (.wasm sender rewardA (.reward rm) funds) = (s, .error err) :=
  exec_rejected_reward s sender funds rm (fun tk dp bb => by
    rcases hm with ⟨a, b, c, rfl⟩ | ⟨a, rfl⟩ | ⟨d, b, rfl⟩ <;>
      exact C10_reward s.reward rewardA tk dp bb sender _ hno)

end Krp
