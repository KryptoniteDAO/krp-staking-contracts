/-
  C05 — Peg-recovery fee is bounded and never over-collects past the 1:1 peg.
  Four fee-charging paths: bond, unbond, convert stSei→bSei (fee on the minted bSei),
  convert bSei→stSei (fee on the burnt bSei).  `C = supply + pending requests` are the claims.
-/
import Krp.Lemmas.HubSpec
import Krp.Lemmas.Arith
namespace Krp
open HubSt

/-- Fee on a mint (bond, convert stSei→bSei): never negative, never above amount × fee rate, none
    at or above the threshold, and never past the peg: when charged, backing ≤ claims afterwards. -/
theorem C05_fee_on_mint (st : HubSt) (S m v out : Nat) (hx : st.pegFeeOnMint S m v = .ok out) :
    out ≤ m ∧ m - out ≤ mulDec m st.fee ∧ (st.thr ≤ st.bRate → out = m) ∧
    (st.bRate < st.thr → st.bBond + v ≤ S + out + st.reqB) := pegFeeOnMint_spec st S m v out hx

/-- Fee on a burn (unbond, convert bSei→stSei): same bounds; the fee never exceeds the current gap
    between claims and backing. -/
theorem C05_fee_on_burn (st : HubSt) (S amount out : Nat) (hx : st.pegFeeOnBurn S amount = .ok out) :
    out ≤ amount ∧ amount - out ≤ mulDec amount st.fee ∧ (st.thr ≤ st.bRate → out = amount) ∧
    (st.bRate < st.thr → st.bBond + (amount - out) ≤ S + st.reqB) := pegFeeOnBurn_spec st S amount out hx

/-- Bond never leaves the bSei pool above its claims when a fee was charged. -/
theorem C05_bond_not_past_peg (h h' : HubSt) (e : HubEnv) (sender : Addr) (funds : List (Denom × Nat))
    (ms : List Msg) (hx : h.bondB e sender funds = .ok (h', ms)) :
    ∃ st mint, h.actualState e = .ok st ∧
      (st.bRate < st.thr → h'.bBond ≤ (st.bSupplyQ e).toOption.getD 0 + mint + h.reqB) := by
  obtain ⟨p, st, mint, delegs, tok, _, hst, _, hfee, _, _, hh, _⟩ := bondB_spec h h' e sender funds ms hx
  have hf := pegFeeOnMint_spec st _ _ _ _ hfee
  have hs := (actualState_spec h st e hst).1
  refine ⟨st, mint, hst, fun hlt => ?_⟩
  rw [hh]; have := hf.2.2.2 hlt; rw [hs.reqB] at this; exact this

/-- Convert stSei→bSei: the same. -/
theorem C05_convert_stsei_bsei_not_past_peg (h h' : HubSt) (e : HubEnv) (amount : Nat) (user : Addr)
    (ms : List Msg) (hx : h.convertSB e amount user = .ok (h', ms)) :
    ∃ st bs mint, h.actualState e = .ok st ∧ st.bSupplyQ e = .ok bs ∧
      (st.bRate < st.thr → h'.bBond ≤ bs + mint + st.reqB) := by
  obtain ⟨st, sTok, bTok, bs, ss, mint, hst, _, _, _, hbs, _, hfee, _, _, hh, _⟩ := convertSB_spec h h' e amount user ms hx
  have hf := pegFeeOnMint_spec st _ _ _ _ hfee
  exact ⟨st, bs, mint, hst, hbs, fun hlt => by rw [hh]; exact hf.2.2.2 hlt⟩

/-- Unbond: after the request is recorded the backing does not exceed the claims (supply after the
    burn plus pending requests), and after an undelegation in the same transaction it exceeds the
    remaining claims by less than two base units. -/
theorem C05_unbond_not_past_peg (st : HubSt) (user : Addr) (S amount withFee : Nat)
    (hx : st.pegFeeOnBurn S amount = .ok withFee) (ha : amount ≤ S) (hlt : st.bRate < st.thr) :
    let st' := st.afterUnbondB user S amount withFee
    st'.bBond ≤ (S - amount) + st'.reqB ∧
    (st'.reqB ≤ D → st'.bBond - mulDec st'.reqB st'.bRate ≤ (S - amount) + 2) := by
  intro st'
  have h1 : st.bBond ≤ (S - amount) + (st.reqB + withFee) := by
    have := (pegFeeOnBurn_spec st S amount withFee hx).2.2.2 hlt
    omega
  refine ⟨h1, fun hR => ?_⟩
  show st.bBond - mulDec (st.reqB + withFee) (rateOf st.bBond (S - amount) (st.reqB + withFee)) ≤ _
  unfold rateOf
  split
  · rename_i hz
    rcases hz with hz | hz
    · omega
    · omega
  · rename_i hz
    exact undeleg_peg st.bBond (S - amount) (st.reqB + withFee) h1 hR (by omega)

/-- Convert bSei→stSei, partial: the pool ends at most two base units above its claims provided the
    fee charged respects the cap `fee × backing ≤ (claims − backing)(claims − amount)`. The code caps
    the fee by the current gap `claims − backing` only, which is not enough (D2, see the
    counterexample below). -/
theorem C05_convert_bsei_stsei_partial (h h' : HubSt) (e : HubEnv) (amount : Nat) (user : Addr)
    (ms : List Msg) (hx : h.convertBS e amount user = .ok (h', ms)) :
    ∃ st bs withFee, h.actualState e = .ok st ∧ st.bSupplyQ e = .ok bs ∧
      st.pegFeeOnBurn bs amount = .ok withFee ∧
      (st.bBond ≤ bs + st.reqB → 0 < bs + st.reqB → withFee ≤ D →
       st.bRate = st.bBond * D / (bs + st.reqB) →
       (amount - withFee) * st.bBond ≤ (bs + st.reqB - st.bBond) * (bs + st.reqB - amount) →
       h'.bBond ≤ (bs - amount) + st.reqB + 2) := by
  obtain ⟨st, sTok, bTok, bs, ss, withFee, hst, _, _, hbs, _, hfee, _, _, hle2, hh, _⟩ := convertBS_spec h h' e amount user ms hx
  have hf := pegFeeOnBurn_spec st _ _ _ hfee
  refine ⟨st, bs, withFee, hst, hbs, hfee, fun hBC hC hwD hr hcap => ?_⟩
  rw [hh]
  show st.bBond - mulDec withFee st.bRate ≤ _
  rw [hr]
  have := convert_peg st.bBond (bs + st.reqB) amount withFee hf.1 (by omega) hBC hwD hC hcap
  omega

/-- D2: the code's cap (the current gap) over-collects on convert bSei→stSei. 1000 bSei backed by
    900 (rate 0.9), fee 20 %, threshold 1, convert 500: fee = min(100, 1000 − 900) = 100, value
    removed = ⌊400 × 0.9⌋ = 360, so 540 of backing remain against 500 claims (rate 1.08). -/
theorem C05_convert_bsei_stsei_counterexample :
    let fee := min (mulDec 500 (D / 5)) (1000 + 0 - 900)
    900 - mulDec (500 - fee) (rateOf 900 1000 0) > (1000 - 500) + 0 + 2 := by decide

/-! Non-vacuity of the partial theorem's cap: with fee 10 the cap holds (10·900 ≤ 100·500). -/
example : (500 - 490) * 900 ≤ (1000 - 900) * (1000 - 500) := by decide

end Krp
