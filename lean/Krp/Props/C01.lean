/-
  C01 — Matured unbond claims are always fully funded and paid exactly once.
-/
import Krp.Lemmas.Unsent
import Krp.Lemmas.Arrive
namespace Krp
open HubSt

/-- WithdrawUnbonded pays the caller exactly its recorded share of the released batches (each entry
    valued at that batch's final withdraw rates, floored per token), in one bank transfer, and
    records the remaining balance; it fails when that share is zero. -/
theorem C01_pays_recorded_share (h h' : HubSt) (e : HubEnv) (sender : Addr) (ms : List Msg)
    (hx : h.withdraw e sender = .ok (h', ms)) :
    ∃ h1, h.processWithdrawRate (e.now - h.unbonding) e.hubBalance = .ok h1 ∧
      (h1.finished sender).1 ≠ 0 ∧ (h1.finished sender).1 ≤ e.hubBalance ∧
      ms = [Msg.bankSend e.self sender 0 (h1.finished sender).1] ∧
      h'.prevHubBalance = e.hubBalance - (h1.finished sender).1 ∧
      (h1.finished sender).1 =
        (((h1.finished sender).2).map (fun i => entryValue (h1.histOr i) (h1.waitB sender i) (h1.waitS sender i))).sum := by
  obtain ⟨_, h1, hp, hne, hle, hh, hms⟩ := withdraw_spec h h' e sender ms hx
  subst hh
  exact ⟨h1, hp, hne, hle, hms, rfl, rfl⟩

private theorem finished_congr (g g' : HubSt) (u : Addr) (hh : g'.hist = g.hist) (hb : g'.batchId = g.batchId)
    (hw : ∀ i, g'.waitSet u i = g.waitSet u i ∧ g'.waitB u i = g.waitB u i ∧ g'.waitS u i = g.waitS u i) :
    g'.finished u = g.finished u := by
  have e1 : (fun i => g'.waitSet u i) = (fun i => g.waitSet u i) := funext (fun i => (hw i).1)
  have e2 : (fun i => entryValue (g'.histOr i) (g'.waitB u i) (g'.waitS u i)) =
      (fun i => entryValue (g.histOr i) (g.waitB u i) (g.waitS u i)) :=
    funext (fun i => by simp only [histOr, hh, (hw i).2.1, (hw i).2.2])
  unfold finished userBatches
  simp only [hh, hb, e1, e2]

private theorem finished_after_delete (g g' : HubSt) (u : Addr) (hh : g'.hist = g.hist)
    (hb : g'.batchId = g.batchId)
    (hw : ∀ i, g'.waitSet u i = (if i ∈ (g.finished u).2 then false else g.waitSet u i)) :
    (g'.finished u).2 = [] ∧ (g'.finished u).1 = 0 := by
  have hempty : (g'.finished u).2 = [] := by
    apply List.eq_nil_iff_forall_not_mem.mpr
    intro i hi
    simp only [finished, userBatches, List.mem_filter, List.mem_range, hh, hb] at hi
    have hws := hw i
    by_cases hin : i ∈ (g.finished u).2
    · rw [if_pos hin] at hws; rw [hws] at hi; exact absurd hi.1.2 (by simp)
    · rw [if_neg hin] at hws
      apply hin
      simp only [finished, userBatches, List.mem_filter, List.mem_range]
      exact ⟨⟨hi.1.1, by rw [← hws]; exact hi.1.2⟩, hi.2⟩
  refine ⟨hempty, ?_⟩
  have : (g'.finished u).1 = (((g'.finished u).2).map (fun i => entryValue (g'.histOr i) (g'.waitB u i) (g'.waitS u i))).sum := rfl
  rw [this, hempty]; rfl

/-- …and never pays a claim twice: after a successful withdrawal the caller has no released claim
    left (an immediate second WithdrawUnbonded finds nothing and fails). -/
theorem C01_paid_once (h h' : HubSt) (e : HubEnv) (sender : Addr) (ms : List Msg)
    (hx : h.withdraw e sender = .ok (h', ms)) :
    (h'.finished sender).2 = [] ∧ (h'.finished sender).1 = 0 := by
  obtain ⟨_, h1, hp, _, _, hh, _⟩ := withdraw_spec h h' e sender ms hx
  subst hh
  have fs := delWait_fold_spec (h1.finished sender).2 sender h1
  simp only [] at fs
  exact finished_after_delete h1 _ sender fs.1 fs.2.1 (fun i => (fs.2.2.2.2.2.2.2.2 i).1)

/-- Each claimant's payout is independent of the order in which claimants withdraw: the release is
    computed from the hub's state, balance and time alone (not from who calls), and a withdrawal by
    `v` leaves every other user's released share exactly as the release made it. -/
theorem C01_order_independent (h h' : HubSt) (e : HubEnv) (v : Addr) (ms : List Msg)
    (hx : h.withdraw e v = .ok (h', ms)) :
    ∃ h1, h.processWithdrawRate (e.now - h.unbonding) e.hubBalance = .ok h1 ∧
      ∀ u, u ≠ v → h'.finished u = h1.finished u := by
  obtain ⟨_, h1, hp, _, _, hh, _⟩ := withdraw_spec h h' e v ms hx
  subst hh
  refine ⟨h1, hp, fun u hne => ?_⟩
  have fs := delWait_fold_spec (h1.finished v).2 v h1
  simp only [] at fs
  exact finished_congr h1 _ u fs.1 fs.2.1 (fun i => fs.2.2.2.2.2.2.2.1 u i hne)

/-- users' payouts from a batch side never exceed the side's allocation -/
theorem C01_sum_of_floors (xs : List Nat) (r : Nat) :
    (xs.map (fun x => mulDec x r)).sum ≤ mulDec xs.sum r := by
  have := (sumOn_mulDec xs (fun x => x) r).1
  unfold sumOn at this
  rwa [List.map_id'] at this

/-- Release of a single batch (the common case), one token side: whatever arrived for that side —
    less than undelegated (slashing), equal, or more (unsolicited transfers) — the side's new
    withdraw rate allocates at most what arrived, so the total paid never exceeds the coins that
    actually arrived. `U` = amount undelegated for the side, `A` = coins that arrived for it. -/
theorem C01_single_batch_side_alloc_le_arrived (amount rate A U : Nat) (hU : U = mulDec amount rate)
    (hpos : 0 < U) :
    mulDec amount (newWithdrawRate amount rate U (signedSub U A)) ≤ A := by
  have hD : 0 < D := D_pos
  have hamt : amount ≠ 0 := by
    intro h0; subst h0; simp [mulDec] at hU; omega
  have hUne : U ≠ 0 := Nat.pos_iff_ne_zero.mp hpos
  have hw : fromRatio U U = D := by
    unfold fromRatio; exact Nat.mul_div_cancel_left D hpos
  have hsl : ∀ m, mulDec m D = m := by intro m; unfold mulDec; exact Nat.mul_div_cancel m hD
  have bound : ∀ act, mulDec amount (fromRatio act amount) ≤ act := by
    intro act
    unfold mulDec fromRatio
    have h1 : act * D / amount * amount ≤ act * D := Nat.div_mul_le_self _ _
    have : amount * (act * D / amount) ≤ act * D := by rw [Nat.mul_comm]; exact h1
    exact Nat.div_le_of_le_mul (by rw [Nat.mul_comm D]; exact this)
  by_cases hlt : U < A
  · have hs : signedSub U A = (A - U, true) := by unfold signedSub; rw [if_pos hlt]
    rw [hs]
    unfold newWithdrawRate
    rw [← hU]
    simp only [hamt, hUne, ne_eq, not_false_eq_true, if_true, hw, hsl]
    refine Nat.le_trans (bound _) ?_
    split <;> omega
  · have hs : signedSub U A = (U - A, false) := by unfold signedSub; rw [if_neg hlt]
    rw [hs]
    unfold newWithdrawRate
    rw [← hU]
    simp only [hamt, hUne, ne_eq, not_false_eq_true, if_true, hw, hsl, Bool.false_eq_true, if_false]
    refine Nat.le_trans (bound _) ?_
    split <;> omega

/-- D1 (repaired by the `fix:` commit 94f82c5), regression witness: 1 bSei + 9 stSei in one batch,
    10 undelegated, 9 arrive. Taking the absolute value of `unbonded − slashed`, the bSei side
    (share of the slash + 1 = 2 > 1) is released at rate 1; with the saturating subtraction at 0. -/
theorem C01_fix_regression :
    newWithdrawRate 1 D 1 (signedSub 1 0) = 0 ∧
    (signedSub (mulDec 1 D) (mulDec 1 (fromRatio 1 1) + 1)).1 = 1 := by decide

/-- D5 (known finding): with three or more batches released together under a near-total slash the
    weights' 18-place floor can over-allocate by one base unit. Five bSei batches at rate 1,
    850244140625000000 undelegated, 4539105737537508 arrive (99.5 % slashed): allocated = arrived + 1. -/
theorem C01_release_group_counterexample :
    let us : List Nat := [100000000000000000, 244140625000000, 50000000000000000, 200000000000000000, 500000000000000000]
    let tot := us.sum
    let arrived := 4539105737537508
    (us.map (fun u => mulDec u (newWithdrawRate u D tot (signedSub tot arrived)))).sum = arrived + 1 := by
  decide

example : 0 < mulDec 1000 (9 * D / 10) := by decide

/-- **A withdrawal the hub accepts is always paid — as a whole transaction.** If the hub's
    WithdrawUnbonded handler accepts (unpaused hub, the balance the handler sees is the hub's bank
    balance), the bank transfer it emits cannot fail: the transaction succeeds, exactly the computed
    amount leaves the hub, and `prev_hub_balance` is what remains. -/
theorem C01_withdraw_tx_pays (s : Sys) (u : Addr) (h' : HubSt) (ms : List Msg)
    (hp : s.hub.isPaused = false) (hu : u ≠ hubA)
    (hx : s.hub.withdraw s.hubEnv u = .ok (h', ms)) :
    ∃ s' amt, s.exec (.wasm u hubA (.hub .withdrawUnbonded) []) = (s', .ok ()) ∧
      ms = [Msg.bankSend hubA u 0 amt] ∧ 0 < amt ∧
      s'.chain.bank hubA 0 + amt = s.chain.bank hubA 0 ∧ s'.chain.bank u 0 = s.chain.bank u 0 + amt ∧
      s'.hub = h' ∧ h'.prevHubBalance = s'.chain.bank hubA 0 := by
  obtain ⟨_, h1, hpw, hne, hle, hh, hms⟩ := HubSt.withdraw_spec s.hub h' s.hubEnv u ms hx
  generalize (h1.finished u).1 = amt at hne hle hh hms
  have hle : amt ≤ s.chain.bank hubA 0 := hle
  have hms : ms = [Msg.bankSend hubA u 0 amt] := hms
  have H1 : s.handle (.wasm u hubA (.hub .withdrawUnbonded) []) = .ok ({ s with hub := h' }, ms) :=
    handle_hub_call (by simp only [hubExec, hp, Bool.false_eq_true, if_false]; exact hx)
  have H2 := handle_bankSend_ok (s := { s with hub := h' }) (dst := u) hne hle
  have hne' : ¬ hubA = u := fun h => hu h.symm
  subst hms
  refine ⟨_, amt, (Runs.step H1 (.step H2 (.nil _))).exec (by omega), rfl,
    Nat.pos_of_ne_zero hne, ?_, ?_, rfl, ?_⟩
  · simp only [Sys.setBank, upd, hne', if_false, if_true]
    omega
  · simp only [Sys.setBank, upd, hu, if_false, if_true]
  · rw [hh]
    simp only [Sys.setBank, upd, hne', if_false, if_true]
    rfl

/-! ### Release groups, and the funding of released claims in every state

  `owed h` (Lemmas/Funded.lean) = Σ over all users' wait entries of released batches, each valued
  at its batch's final withdraw rates = the sum of all matured (released) claims.  `Funded h` says
  it is covered by `prev_hub_balance`, which `C02_reserved` shows is covered by the hub's liquid
  balance.  The one operation that can break it is a release that allocates more than arrived;
  `C01_release_side_alloc_le_arrived_partial` proves it cannot for an unslashed side and for a side
  slashed by `sl` with `batches · sl ≤ 10^18`; outside that the bound is false
  (`C01_release_group_counterexample`, known finding D5), which is why the statements below carry
  `GroupSafe` for the releases of a history. -/

/-- **Batches released together, one token side: the allocation never exceeds what arrived for the
    side** — whatever the number of batches, their sizes and rates — when the side lost nothing
    (`T ≤ A`: no slashing of the unbonding stake; unsolicited transfers allowed), and when it lost
    `sl = T − A` with `batches · sl ≤ 10^18`.  PARTIAL: without that side condition the statement
    is false (D5). `xs` = (amount, rate) per batch; `T = sideTotal xs`. -/
theorem C01_release_side_alloc_le_arrived_partial (xs : List (Nat × Nat)) (A : Nat)
    (hs : sideTotal xs ≤ A ∨ xs.length * (sideTotal xs - A) ≤ D) :
    sideAlloc xs (sideTotal xs) (signedSub (sideTotal xs) A) ≤ A :=
  side_alloc_le xs A hs

/-- non-vacuity: three batches, a 10 % slash of the unbonding stake — inside the side condition -/
example : SideSafe 3 (sideTotal [(1000, D), (2000, D), (3000, D)]) 5400 := by
  right; decide

/-- **A release raises the sum of released claims by at most the coins that arrived** (the
    difference between the hub's balance and `prev_hub_balance`), for a group that meets the side
    condition; so the total paid for batches released together never exceeds the arrivals. -/
theorem C01_release_owed_le_arrived (h h1 : HubSt) (cutoff bal : Nat) (inv : ClaimInv h)
    (hs : h.GroupSafe cutoff bal) (hx : h.processWithdrawRate cutoff bal = .ok h1) :
    h1.owed ≤ h.owed + (bal - h.prevHubBalance) :=
  release_owed_le h h1 cutoff bal hx (fun i x hxi => (inv.closed i x hxi).2) hs

/-- WithdrawUnbonded keeps the released claims funded: afterwards what is still owed is covered by
    the new `prev_hub_balance` (= balance − payout). -/
theorem C01_withdraw_keeps_funded (h h' : HubSt) (e : HubEnv) (sender : Addr) (ms : List Msg)
    (inv : ClaimInv h) (hF : h.Funded) (hP : h.prevHubBalance ≤ e.hubBalance)
    (hs : h.GroupSafe (e.now - h.unbonding) e.hubBalance)
    (hx : h.withdraw e sender = .ok (h', ms)) : h'.Funded := by
  obtain ⟨_, h1, hp, _, hle, rfl, _⟩ := withdraw_spec h h' e sender ms hx
  have rel := C01_release_owed_le_arrived h h1 _ _ inv hs hp
  have pay := owed_pay h1 (C07_release_keeps_claims h h1 _ _ inv hp).wf sender
  unfold Funded at hF ⊢
  show ((h1.finished sender).2.foldl (fun hh i => hh.delWait sender i) h1).owed ≤ e.hubBalance - (h1.finished sender).1
  omega

/-- **A matured claim worth at least one base unit can always be withdrawn.** In a state whose
    released claims are funded and whose `prev_hub_balance` is in the hub's account, for a release
    that meets the side condition: WithdrawUnbonded by a claimant whose released entries are worth
    ≥ 1 is accepted by the handler (`C01_withdraw_tx_pays`: and then paid as a whole transaction). -/
theorem C01_withdraw_succeeds (h h1 : HubSt) (e : HubEnv) (sender : Addr)
    (inv : ClaimInv h) (hF : h.Funded) (hP : h.prevHubBalance ≤ e.hubBalance)
    (hs : h.GroupSafe (e.now - h.unbonding) e.hubBalance) (hnow : h.unbonding ≤ e.now)
    (hp : h.processWithdrawRate (e.now - h.unbonding) e.hubBalance = .ok h1)
    (hpos : 1 ≤ (h1.finished sender).1) :
    ∃ h' ms, h.withdraw e sender = .ok (h', ms) := by
  have rel := C01_release_owed_le_arrived h h1 _ _ inv hs hp
  have pay := owed_pay h1 (C07_release_keeps_claims h h1 _ _ inv hp).wf sender
  unfold Funded at hF
  have hle : (h1.finished sender).1 ≤ e.hubBalance := by omega
  unfold withdraw
  rw [if_neg (by omega), hp]
  simp only []
  rw [if_neg (by omega), if_neg (by omega)]
  exact ⟨_, _, rfl⟩

/-- **Absent slashing and unsolicited transfers the total released falls short of the arrivals by
    rounding dust only.** If exactly the coins undelegated for the group arrived (no slashing of the
    unbonding stake, no unsolicited transfer; all amounts within the envelope 10^18), the sum of all
    users' released claims grows by everything that arrived, less at most two base units per batch
    and two per claim (wait entry) of the released batches. -/
theorem C01_release_dust_bound (h h1 : HubSt) (cutoff bal : Nat) (inv : ClaimInv h)
    (hexact : bal - h.prevHubBalance =
      sideTotal (h.pairsS (h.relIds cutoff)) + sideTotal (h.pairsB (h.relIds cutoff)))
    (hle : bal - h.prevHubBalance ≤ D)
    (hamt : ∀ i x, h.hist i = some x → x.bAmt ≤ D ∧ x.sAmt ≤ D)
    (hx : h.processWithdrawRate cutoff bal = .ok h1) :
    h.owed + (bal - h.prevHubBalance) ≤
      h1.owed + 2 * (h.relIds cutoff).length + ((h.relIds cutoff).map (fun i => 2 * (h.keysOf i).length)).sum :=
  release_owed_ge h h1 cutoff bal hx (fun i x hxi hr => (inv.closed i x hxi).1 hr) hexact hle hamt

/-- **A release for which at least the undelegated coins arrived meets the side condition**, with
    or without unsolicited transfers on top (arrivals within the envelope 10^18): the split gives
    neither token side less than was undelegated for it, so `GroupSafe` holds with no slash on either
    side. Hence the side condition of `C01_funded_reachable` can only fail through slashing of the
    unbonding stake. -/
theorem C01_unslashed_arrival_is_safe (h : HubSt) (cutoff bal : Nat)
    (hge : sideTotal (h.pairsS (h.relIds cutoff)) + sideTotal (h.pairsB (h.relIds cutoff)) ≤
      bal - h.prevHubBalance)
    (hle : bal - h.prevHubBalance ≤ D) : h.GroupSafe cutoff bal := by
  unfold GroupSafe
  generalize sideTotal (h.pairsS (h.relIds cutoff)) = sT at *
  generalize sideTotal (h.pairsB (h.relIds cutoff)) = bT at *
  generalize bal - h.prevHubBalance = act at *
  by_cases hpos : 0 < sT + bT
  · have hs := split_surplus sT bT act hpos hge hle
    simp only [hpos, if_true]
    exact ⟨Or.inl hs.1, Or.inl hs.2⟩
  · have hs : sT = 0 := by omega
    have hb : bT = 0 := by omega
    subst hs; subst hb
    exact ⟨Or.inl (Nat.zero_le _), Or.inl (Nat.zero_le _)⟩

/-- …in particular the release of `C01_release_dust_bound`, for which exactly the undelegated coins
    arrived: both token sides receive exactly what was undelegated for them. -/
theorem C01_exact_arrival_is_safe (h : HubSt) (cutoff bal : Nat)
    (hexact : bal - h.prevHubBalance =
      sideTotal (h.pairsS (h.relIds cutoff)) + sideTotal (h.pairsB (h.relIds cutoff)))
    (hle : bal - h.prevHubBalance ≤ D) : h.GroupSafe cutoff bal :=
  C01_unslashed_arrival_is_safe h cutoff bal (Nat.le_of_eq hexact.symm) hle

private theorem prev_of_books {h st : HubSt} {e : HubEnv} (hx : h.actualState e = .ok st) :
    st.prevHubBalance = h.prevHubBalance := (actualState_spec h st e hx).1.prev

private theorem owed_of_keeps {h h' : HubSt} (k : KeepsClaims h h') : h'.owed = h.owed :=
  owed_congr h h' k.same.keys k.same.waitB k.same.waitS k.same.hist

private theorem hist_open {h : HubSt} (inv : ClaimInv h) : h.hist h.batchId = none := by
  cases hh : h.hist h.batchId with
  | none => rfl
  | some z => exact absurd (inv.histBound h.batchId (by rw [hh]; simp)) (Nat.lt_irrefl _)

private theorem owed_addWait (st : HubSt) (inv : ClaimInv st) (u : Addr) (x y : Nat) :
    (st.addWait u st.batchId x y).owed = st.owed := by
  have a := addWait_claims st inv.wf u st.batchId x y
  have hnone := hist_open inv
  unfold owed owedWith
  show sumOn (addKey st.waitKeys (u, st.batchId)) (relValWith st.hist (st.addWait u st.batchId x y)) = _
  have hother : ∀ k, k ≠ (u, st.batchId) →
      relValWith st.hist (st.addWait u st.batchId x y) k = relValWith st.hist st k := by
    intro k hk
    have o := a.2.2.2.1 k.1 k.2 (by intro e; apply hk; cases k; simp at e ⊢; exact e)
    unfold relValWith; rw [o.1, o.2]
  have z1 : relValWith st.hist st (u, st.batchId) = 0 := by unfold relValWith; simp only [hnone]
  have z2 : relValWith st.hist (st.addWait u st.batchId x y) (u, st.batchId) = 0 := by
    unfold relValWith; simp only [hnone]
  have := sumOn_addKey st.waitKeys (relValWith st.hist st) (relValWith st.hist (st.addWait u st.batchId x y))
    (u, st.batchId) hother inv.wf.nodup (fun _ => z1)
  omega

private theorem owed_processUndelegations (h h' : HubSt) (e : HubEnv) (ms : List Msg) (inv : ClaimInv h)
    (hx : h.processUndelegations e = .ok (h', ms)) :
    h'.owed = h.owed ∧ h'.prevHubBalance = h.prevHubBalance := by
  have hnone := hist_open inv
  unfold processUndelegations at hx
  exc_split at hx
  refine ⟨?_, rfl⟩
  unfold owed owedWith
  apply sumOn_congr
  intro k _
  unfold relValWith
  -- the entry written for the closed batch is unreleased
  by_cases hk : k.2 = h.batchId
  · simp only [hk, upd_same, hnone, Bool.false_eq_true, if_false]
  · simp only [upd_other _ _ _ _ hk]

/-- **Every hub message other than WithdrawUnbonded** leaves `prev_hub_balance` and the sum of
    released claims exactly as they were. -/
theorem C01_other_messages_keep_reserve (h h' : HubSt) (e : HubEnv) (sender : Addr)
    (funds : List (Denom × Nat)) (m : HubMsg) (ms : List Msg) (inv : ClaimInv h) (hl : h.legacy = [])
    (hm : m ≠ .withdrawUnbonded) (hx : hubExec h e sender funds m = .ok (h', ms)) :
    h'.prevHubBalance = h.prevHubBalance ∧ h'.owed = h.owed := by
  -- handlers that start from the re-synchronised state `st` and touch neither `prev_hub_balance` nor a wait list
  have books : ∀ (st : HubSt), h.actualState e = .ok st →
      st.prevHubBalance = h.prevHubBalance ∧ st.owed = h.owed :=
    fun st hst => ⟨prev_of_books hst, owed_of_keeps (actualState_keeps h st e hst)⟩
  -- an unbond request: an entry in the open batch, then possibly the undelegation that closes it
  have unbond : ∀ {st h0 : HubSt} (u : Addr) (x y : Nat), h.actualState e = .ok st →
      h0.owed = (st.addWait u st.batchId x y).owed → h0.prevHubBalance = st.prevHubBalance →
      (ClaimInv st → ClaimInv h0) → (∃ um, h0.processUndelegations e = .ok (h', um)) ∨ h' = h0 →
      h'.prevHubBalance = h.prevHubBalance ∧ h'.owed = h.owed := by
    intro st h0 u x y hst ho hp hc hcase
    have inv1 : ClaimInv st := ClaimInv.of_same (actualState_keeps h st e hst).same inv
    have b := books st hst
    have o0 : h0.owed = h.owed := by rw [ho, owed_addWait st inv1]; exact b.2
    rcases hcase with ⟨um, hu⟩ | rfl
    · have r := owed_processUndelegations _ _ _ _ (hc inv1) hu
      exact ⟨r.2.trans (hp.trans b.1), r.1.trans o0⟩
    · exact ⟨hp.trans b.1, o0⟩
  cases hubExec_route hx with
  | withdrawUnbonded => exact absurd rfl hm
  | migrate limit _ hh _ =>
    subst hh
    rw [show h.migrate limit = h by simp [migrate, hl]]
    exact ⟨rfl, rfl⟩
  | params _ _ _ _ _ _ hp _ => obtain ⟨_, _, _, rfl⟩ := updateParams_spec hp; exact ⟨rfl, rfl⟩
  | updateGlobalIndex _ hu => obtain ⟨_, _, _, _, rfl⟩ := updateGlobal_spec hu; exact ⟨rfl, rfl⟩
  | updateConfig _ _ _ _ _ _ _ _ hc => obtain ⟨_, _, _, rfl, _⟩ := updateConfig_spec hc; exact ⟨rfl, rfl⟩
  | setOwner _ _ _ hh _ | acceptOwnership _ _ hh _ | swapHook _ _ hh _ | claimAirdrop _ _ hh _
  | redelegateProxy _ _ _ _ hh _ => subst hh; exact ⟨rfl, rfl⟩
  | checkSlashing _ hst _ => exact books h' hst
  | bond _ hb =>
    obtain ⟨_, st, _, _, _, _, hst, _, _, _, _, rfl, _⟩ := bondB_spec _ _ _ _ _ _ hb
    exact books st hst
  | bondForStSei _ hb =>
    obtain ⟨_, st, _, _, _, hst, _, _, _, rfl, _⟩ := bondS_spec _ _ _ _ _ _ hb
    exact books st hst
  | bondRewards _ hb =>
    obtain ⟨_, st, _, _, hst, _, rfl⟩ := bondR_spec _ _ _ _ _ _ hb
    exact books st hst
  | convertBS _ _ _ _ _ _ hc =>
    obtain ⟨st, _, _, _, _, _, hst, _, _, _, _, _, _, _, _, rfl, _⟩ := convertBS_spec _ _ _ _ _ _ hc
    exact books st hst
  | convertSB _ _ _ _ _ _ _ hc =>
    obtain ⟨st, _, _, _, _, _, hst, _, _, _, _, _, _, _, _, rfl, _⟩ := convertSB_spec _ _ _ _ _ _ hc
    exact books st hst
  | unbondB user amt _ _ _ _ hu =>
    obtain ⟨st, supply, wf, _, hst, _, _, _, _, _, hcase⟩ := unbondB_spec _ _ _ _ _ _ hu
    exact unbond (h0 := st.afterUnbondB user supply amt wf) user wf 0 hst (owed_congr _ _ rfl rfl rfl rfl) rfl
      (fun i => (C07_unbond_bsei_credits_sender_only st i user supply amt wf).1)
      (hcase.imp (fun c => c.2.imp fun _ d => d.1) fun c => c.2.1)
  | unbondS user amt _ _ _ _ _ hu =>
    obtain ⟨st, _, hst, _, _, hcase⟩ := unbondS_spec _ _ _ _ _ _ hu
    exact unbond (h0 := st.afterUnbondS user amt) user 0 amt hst (owed_congr _ _ rfl rfl rfl rfl) rfl
      (fun i => (C07_unbond_stsei_credits_sender_only st i user amt).1)
      (hcase.imp (fun c => c.2.imp fun _ d => d.1) fun c => c.2.1)

/-- **Every hub message keeps the released claims funded.** Whatever message the hub accepts, from
    whomever: if the sum of released, unpaid claims was covered by `prev_hub_balance` it still is —
    for WithdrawUnbonded provided `prev_hub_balance` is in the hub's account (`C02_reserved`) and the
    release it performs meets the side condition. -/
theorem C01_funded_hub_step (h h' : HubSt) (e : HubEnv) (sender : Addr) (funds : List (Denom × Nat))
    (m : HubMsg) (ms : List Msg) (inv : ClaimInv h) (hl : h.legacy = []) (hF : h.Funded)
    (hP : h.prevHubBalance ≤ e.hubBalance)
    (hs : m = .withdrawUnbonded → h.unbonding ≤ e.now → h.GroupSafe (e.now - h.unbonding) e.hubBalance)
    (hx : hubExec h e sender funds m = .ok (h', ms)) : h'.Funded := by
  by_cases hm : m = .withdrawUnbonded
  · subst hm
    cases hubExec_route hx with
    | withdrawUnbonded _ hw =>
      exact C01_withdraw_keeps_funded h h' e sender ms inv hF hP (hs rfl (withdraw_spec h h' e sender ms hw).1) hw
  · have r := C01_other_messages_keep_reserve h h' e sender funds m ms inv hl hm hx
    unfold Funded at hF ⊢
    rw [r.1, r.2]; exact hF

/-- the release that a top-level message would perform (if it is a WithdrawUnbonded) meets the
    side condition of `C01_release_side_alloc_le_arrived_partial` -/
def SafeTop (s : Sys) (m : Msg) : Prop :=
  ∀ sender funds s1, m = .wasm sender hubA (.hub .withdrawUnbonded) funds →
    s.moveFunds sender hubA funds = .ok s1 → s.hub.unbonding ≤ s1.chain.time →
    s.hub.GroupSafe (s1.chain.time - s.hub.unbonding) (s1.chain.bank hubA 0)

/-- carried from message to message inside a transaction -/
structure FundQ (s : Sys) (q : List Msg) : Prop where
  fund : HubFund s q
  claims : ClaimInv s.hub
  legacy : s.hub.legacy = []
  funded : s.hub.Funded

theorem FundQ.step (s s' : Sys) (m : Msg) (rest subs : List Msg) (inv : FundQ s (m :: rest))
    (hsafe : SafeTop s m) (hx : s.handle m = .ok (s', subs)) : FundQ s' (subs ++ rest) := by
  have hf := HubFund.step s s' m rest subs inv.fund hx
  by_cases hm : ∃ sender call funds, m = .wasm sender hubA call funds
  · obtain ⟨sender, call, funds, rfl⟩ := hm
    obtain ⟨s1, hm', h', rfl, hmv, hx', rfl⟩ := handle_hub hx
    rw [(moveFunds_same _ _ _ _ _ hmv).hub] at hx'
    -- when the hub handles a message nothing it sent earlier is still pending: prev ≤ balance
    obtain ⟨hmo, _, hB⟩ := (pending_cons inv.fund.split).resolve_left fun h => nomatch h.1
    have hB1 := moveFunds_hub_in hmv hmo
    have c7 := C07_hub_step _ _ _ _ _ _ _ inv.claims inv.legacy hx'
    refine ⟨hf, c7.1, c7.2, C01_funded_hub_step s.hub h' s1.hubEnv sender funds hm' subs inv.claims inv.legacy
      inv.funded ?_ (fun e hu => by subst e; exact hsafe sender funds s1 rfl hmv hu) hx'⟩
    show s.hub.prevHubBalance ≤ s1.chain.bank hubA 0
    have hB : s.hub.prevHubBalance + 0 ≤ s.chain.bank hubA 0 := hB
    omega
  · have hh := handle_hub_same hx fun a c f e => hm ⟨a, c, f, e⟩
    exact ⟨hf, hh ▸ inv.claims, hh ▸ inv.legacy, hh ▸ inv.funded⟩

theorem SafeTop.of_noWd (s : Sys) (m : Msg) (h : isHubWd m = false) : SafeTop s m := by
  intro sender funds s1 heq _ _
  subst heq
  simp [isHubWd] at h

/-- no contract emits a WithdrawUnbonded, so a queue free of them stays free of them -/
theorem run_noWd (P : Sys → List Msg → Prop)
    (hh : ∀ s m rest s' subs, P s (m :: rest) → isHubWd m = false → s.handle m = .ok (s', subs) → P s' (subs ++ rest))
    (fuel : Nat) (s : Sys) (q : List Msg) (s' : Sys) (hp : P s q) (hq : NoWd q)
    (hrun : Sys.run fuel s q = .ok s') : P s' [] :=
  (run_inv2 (fun a q => P a q ∧ NoWd q)
    (fun a b r a' sb hp hx => ⟨hh a b r a' sb hp.1 (hp.2 b (List.mem_cons_self ..)) hx, fun x hx' =>
      (List.mem_append.mp hx').elim (handle_noWd a a' b sb hx x) fun h => hp.2 x (List.mem_cons_of_mem _ h)⟩)
    fuel s q s' ⟨hp, hq⟩ hrun).1

/-- **One transaction.** From a state in which released claims are funded and `prev_hub_balance`
    is in the hub's account, after any transaction not sent in the hub's name — with everything it
    triggers — released claims are still funded; only a top-level WithdrawUnbonded needs its release
    to meet the side condition, because no contract ever emits that message (`handle_noWd`). -/
theorem C01_funded_tx (s : Sys) (m : Msg) (inv : ClaimInv s.hub) (hl : s.hub.legacy = [])
    (hF : s.hub.Funded) (hB : s.hub.prevHubBalance ≤ s.chain.bank hubA 0)
    (hm : m.sentFrom ≠ hubA) (hsafe : SafeTop s m) : (s.exec m).1.hub.Funded := by
  unfold Sys.exec
  split
  · rename_i s' hrun
    have inv0 : FundQ s [m] := ⟨⟨[], [m], rfl, (fun _ h => nomatch h),
      List.forall_mem_singleton.mpr (isOut_of_sentFrom hm), hB⟩, inv, hl, hF⟩
    -- the first message by hand, the rest by the queue invariant
    obtain ⟨s1, subs, h1, hrun⟩ := run_ok_cons hrun
    exact (run_noWd FundQ (fun a b r a' sb hp hw => FundQ.step a a' b r sb hp (SafeTop.of_noWd a b hw))
      399 s1 (subs ++ []) s' (FundQ.step s s1 m [] subs inv0 hsafe h1)
      (by rw [List.append_nil]; exact handle_noWd s s1 m subs h1) hrun).funded
  · exact hF

/-- **Every reachable state: the hub's liquid balance covers the sum of all released claims.**
    From any state where that holds with consistent claim bookkeeping (the instantiated hub), after
    any history of any length — transactions not sent in the hub's name with everything they
    trigger, slashing, time, donations, failed transactions — the sum of all users' released,
    unpaid claims is at most `prev_hub_balance`, which is at most the hub's balance of the staking
    coin; provided every release performed by a top-level WithdrawUnbonded of the history meets the
    side condition (no loss on a token side, or batches · loss ≤ 10^18).  PARTIAL in exactly that
    proviso: D5 (`C01_release_group_counterexample`) shows it cannot be dropped. -/
theorem C01_funded_reachable (s : Sys) (l : List Step) (inv : ClaimInv s.hub) (hl : s.hub.legacy = [])
    (hF : s.hub.Funded) (hB : s.hub.prevHubBalance ≤ s.chain.bank hubA 0)
    (hq : ∀ m, Step.tx m ∈ l → m.sentFrom ≠ hubA)
    (hnl : ∀ u b a, Step.env (.seedLegacy u b a) ∉ l)
    (hsafe : ∀ pre m post, l = pre ++ Step.tx m :: post → SafeTop (s.steps pre) m) :
    (s.steps l).hub.owed ≤ (s.steps l).hub.prevHubBalance ∧
    (s.steps l).hub.prevHubBalance ≤ (s.steps l).chain.bank hubA 0 := by
  induction l generalizing s with
  | nil => exact ⟨hF, hB⟩
  | cons st rest ih =>
    show ((s.step st).steps rest).hub.owed ≤ _ ∧ _
    have hq1 : ∀ m, Step.tx m ∈ [st] → m.sentFrom ≠ hubA :=
      fun m hm => hq m (by simp at hm; rw [hm]; exact List.mem_cons_self ..)
    have hnl1 : ∀ u b a, Step.env (.seedLegacy u b a) ∉ [st] :=
      fun u b a hm => hnl u b a (by simp at hm; rw [hm]; exact List.mem_cons_self ..)
    have c7 := C07_reachable s [st] inv hl hnl1
    have c2 := C02_reserved s [st] hB hq1
    have f1 : (s.step st).hub.Funded := by
      cases st with
      | tx m =>
        exact C01_funded_tx s m inv hl hF hB (hq m (List.mem_cons_self ..)) (hsafe [] m rest rfl)
      | env e =>
        have hne : ∀ u b a, e ≠ .seedLegacy u b a := by
          intro u b a he; subst he; exact hnl u b a (List.mem_cons_self ..)
        have sc := env_same s e hne
        show (s.env e).hub.Funded
        rw [sc.hub]; exact hF
    exact ih (s.step st) c7.1 c7.2 f1 c2
      (fun m hm => hq m (List.mem_cons_of_mem _ hm))
      (fun u b a hm => hnl u b a (List.mem_cons_of_mem _ hm))
      (fun pre m post he => by
        have := hsafe (st :: pre) m post (by rw [he]; rfl)
        exact this)

/-! Non-vacuity of `C01_funded_reachable`: the genesis state. -/
example : genesisSys.hub.Funded ∧ genesisSys.hub.prevHubBalance ≤ genesisSys.chain.bank hubA 0 := by
  constructor
  · show genesisSys.hub.owed ≤ genesisSys.hub.prevHubBalance
    decide
  · decide

/-! #### histories without slashing of the unbonding stake: no side condition is needed

  `Lemmas/Arrive.lean` carries, from message to message and from block to block, that the hub's
  balance covers `prev_hub_balance`, the hub's pending outflows and the coins undelegated for
  every matured, unreleased batch (`ArriveQ`), using the shape of the batch history (`HistInv`,
  `Lemmas/Shape.lean`).  At a WithdrawUnbonded this gives "at least the undelegated coins
  arrived", hence `GroupSafe` by `C01_unslashed_arrival_is_safe`. -/

/-- E2 and E1 at a top-level WithdrawUnbonded: the hub's unbonding period is the chain's unbonding
    time, and the coins that arrived since the last withdrawal are within the envelope 10^18 -/
def WdOk (s : Sys) (m : Msg) : Prop :=
  ∀ sender funds s1, m = .wasm sender hubA (.hub .withdrawUnbonded) funds →
    s.moveFunds sender hubA funds = .ok s1 →
    s.hub.unbonding = s.chain.unbondingTime ∧ s1.chain.bank hubA 0 - s.hub.prevHubBalance ≤ D

private theorem relIds_total (h : HubSt) (ids : List Nat) :
    sideTotal (h.pairsS ids) + sideTotal (h.pairsB ids) = (ids.map (fun i => batchU (h.histOr i))).sum := by
  rw [sideTotal_pairsS, sideTotal_pairsB]
  exact (sumOn_add ids _ _).symm

theorem SafeTop.of_arrive (s : Sys) (m : Msg) (rest : List Msg) (ha : ArriveQ s (m :: rest))
    (hi : HistInv s.hub) (hok : WdOk s m) (hm : m.sentFrom ≠ hubA) : SafeTop s m := by
  intro sender funds s1 heq hmv hunb
  subst heq
  obtain ⟨he2, he1⟩ := hok sender funds s1 rfl hmv
  obtain ⟨_, _, hB⟩ := (pending_cons ha.split).resolve_left fun h => nomatch h.1
  have hB : s.hub.prevHubBalance + 0 + maturedSum s.hub s.chain.unbondingTime s.chain.time ≤ s.chain.bank hubA 0 := hB
  have hB1 := moveFunds_bank_in sender hubA hm funds s s1 hmv 0
  apply C01_unslashed_arrival_is_safe _ _ _ ?_ he1
  rw [relIds_total]
  -- every batch the release processes has matured by the chain's clock
  have hsub : ((s.hub.relIds (s1.chain.time - s.hub.unbonding)).map (fun i => batchU (s.hub.histOr i))).sum ≤
      maturedSum s.hub s.chain.unbondingTime s.chain.time := by
    refine sumOn_le_of_nodup_subset _ _ _ (releasable_nodup _ _ _ _) fun i hi' => ?_
    obtain ⟨x, hx, hr, ht⟩ := releasable_mem s.hub _ _ _ i hi'
    obtain ⟨_, rfl⟩ := moveFunds_chain hmv
    refine List.mem_filter.mpr ⟨List.mem_range.mpr ((hi.dom i).mp (by rw [hx]; simp)).2, ?_⟩
    refine (isMatured_iff _ _ _ i).mpr ⟨x, hx, hr, ?_⟩
    have ht : x.time ≤ s.chain.time - s.hub.unbonding := ht
    have hunb : s.hub.unbonding ≤ s.chain.time := hunb
    omega
  omega

/-- carried from message to message inside a transaction -/
structure FullQ (s : Sys) (q : List Msg) : Prop where
  fund : FundQ s q
  hist : HistInv s.hub
  arr : ArriveQ s q

theorem FullQ.step (s s' : Sys) (m : Msg) (rest subs : List Msg) (inv : FullQ s (m :: rest))
    (hsafe : SafeTop s m)
    (he2 : ∀ sender funds, m = .wasm sender hubA (.hub .withdrawUnbonded) funds → s.hub.unbonding = s.chain.unbondingTime)
    (hx : s.handle m = .ok (s', subs)) : FullQ s' (subs ++ rest) := by
  refine ⟨FundQ.step s s' m rest subs inv.fund hsafe hx, ?_,
    ArriveQ.step s s' m rest subs inv.arr inv.hist inv.fund.legacy he2 hx⟩
  rcases handle_hub_or_same hx with e | ⟨_, _, _, _, hx'⟩
  · exact e ▸ inv.hist
  · exact HistInv.hub_step _ _ _ _ _ _ _ inv.hist inv.fund.legacy hx'

theorem FullQ.push (s : Sys) (m : Msg) (inv : FullQ s []) (hm : m.sentFrom ≠ hubA) : FullQ s [m] := by
  have hno : ∀ x ∈ [m], isOut x = false := List.forall_mem_singleton.mpr (isOut_of_sentFrom hm)
  refine ⟨⟨⟨[], [m], rfl, (fun _ h => nomatch h), hno, pending_nil inv.fund.fund.split⟩,
      inv.fund.claims, inv.fund.legacy, inv.fund.funded⟩, inv.hist,
    ⟨inv.arr.ubpos, inv.arr.fresh, inv.arr.lastUnb, ?_, [], [m], rfl, (fun _ h => nomatch h), hno, pending_nil inv.arr.split⟩⟩
  intro i x hx hr hlt
  have c := inv.arr.cover i x hx hr hlt
  simp only [undelegatedBy] at c
  split at c <;> split <;> omega

/-- **One transaction, no side condition.** From a state in which released claims are funded, the
    batch history has its shape and the arrivals are accounted for, any transaction not sent in the
    hub's name — with everything it triggers — leaves such a state; a top-level WithdrawUnbonded
    only needs E2 and E1 (`WdOk`), not a side condition on its release. -/
theorem C01_full_tx (s : Sys) (m : Msg) (inv : FullQ s []) (hm : m.sentFrom ≠ hubA) (hok : WdOk s m) :
    FullQ (s.exec m).1 [] := by
  unfold Sys.exec
  split
  · rename_i s' hrun
    have inv1 := FullQ.push s m inv hm
    -- the first message by hand, the rest by the queue invariant
    obtain ⟨s1, subs, h1, hrun⟩ := run_ok_cons hrun
    have he2 : ∀ sender funds, m = .wasm sender hubA (.hub .withdrawUnbonded) funds →
        s.hub.unbonding = s.chain.unbondingTime := by
      intro sender funds heq
      subst heq
      obtain ⟨s0, _, _, _, hmv, _⟩ := handle_hub h1
      exact (hok sender funds s0 rfl hmv).1
    exact run_noWd FullQ (fun a b r a' sb hp hw => FullQ.step a a' b r sb hp (SafeTop.of_noWd a b hw)
        fun sender funds heq => by rw [heq] at hw; cases hw)
      399 s1 (subs ++ []) s' (FullQ.step s s1 m [] subs inv1 (SafeTop.of_arrive s m [] inv1.arr inv1.hist hok hm) he2 h1)
      (by rw [List.append_nil]; exact handle_noWd s s1 m subs h1) hrun
  · exact inv

/-- **Every reachable state, histories without slashing of the unbonding stake: the hub's liquid
    balance covers the sum of all released claims and, on top of them, the coins of every matured
    batch not yet released.** From a state where that holds (the instantiated hub), after any
    history of any length — transactions not sent in the hub's name with everything they trigger,
    validator slashing, time, donations, rewards, failed transactions — in which the unbonding stake
    is not slashed and every top-level WithdrawUnbonded finds E2 and E1 in force (`WdOk`):
    Σ released claims ≤ `prev_hub_balance`, and
    `prev_hub_balance` + Σ coins undelegated for matured unreleased batches ≤ the hub's balance.
    No side condition on the releases is needed: they are shown to meet it. -/
theorem C01_funded_reachable_unslashed (s : Sys) (l : List Step) (inv : FullQ s [])
    (hq : ∀ m, Step.tx m ∈ l → m.sentFrom ≠ hubA)
    (hnl : ∀ u b a, Step.env (.seedLegacy u b a) ∉ l)
    (hns : ∀ v n d, Step.env (.slashUnbonding v n d) ∉ l)
    (hok : ∀ pre m post, l = pre ++ Step.tx m :: post → WdOk (s.steps pre) m) :
    (s.steps l).hub.owed ≤ (s.steps l).hub.prevHubBalance ∧
    (s.steps l).hub.prevHubBalance +
      maturedSum (s.steps l).hub (s.steps l).chain.unbondingTime (s.steps l).chain.time ≤
      (s.steps l).chain.bank hubA 0 := by
  suffices h : FullQ (s.steps l) [] from ⟨h.fund.funded, h.arr.drained⟩
  induction l generalizing s with
  | nil => exact inv
  | cons st rest ih =>
    show FullQ ((s.step st).steps rest) []
    apply ih
    · cases st with
      | tx m =>
        exact C01_full_tx s m inv (hq m (List.mem_cons_self ..)) (hok [] m rest rfl)
      | env e =>
        have hne : ∀ u b a, e ≠ .seedLegacy u b a := by
          intro u b a he; subst he; exact hnl u b a (List.mem_cons_self ..)
        have hnse : ∀ v n d, e ≠ .slashUnbonding v n d := by
          intro v n d he; subst he; exact hns v n d (List.mem_cons_self ..)
        have sc := env_same s e hne
        have ha := ArriveQ.env s e inv.arr inv.hist hnse hne
        have hB := ha.drained
        show FullQ (s.env e) []
        refine ⟨⟨⟨[], [], rfl, (fun _ h => nomatch h), (fun _ h => nomatch h), ?_⟩,
          by rw [sc.hub]; exact inv.fund.claims, by rw [sc.hub]; exact inv.fund.legacy,
          by rw [sc.hub]; exact inv.fund.funded⟩, by rw [sc.hub]; exact inv.hist, ha⟩
        show (s.env e).hub.prevHubBalance + 0 ≤ (s.env e).chain.bank hubA 0
        omega
    · exact fun m hm => hq m (List.mem_cons_of_mem _ hm)
    · exact fun u b a hm => hnl u b a (List.mem_cons_of_mem _ hm)
    · exact fun v n d hm => hns v n d (List.mem_cons_of_mem _ hm)
    · intro pre m post he
      exact hok (st :: pre) m post (by rw [he]; rfl)

/-! Non-vacuity of `C01_funded_reachable_unslashed`: the genesis state on a chain whose unbonding
    time equals the hub's unbonding period (E2). -/
def genesisE2 : Sys := { genesisSys with chain := { genesisSys.chain with unbondingTime := 100 } }

example : FullQ genesisE2 [] := by
  have hc : ClaimInv genesisE2.hub :=
    ClaimInv.of_same (h := (hubInit 1 0 30 100 0 D 1 3).toOption.getD default) ⟨rfl, rfl, rfl, rfl, rfl, rfl, rfl⟩
      (C07_init 1 0 30 100 0 D 1 3 _ rfl)
  have hh : HistInv genesisE2.hub :=
    (HistInv.init 1 0 30 100 0 D 1 3 _ rfl).of_same (h := (hubInit 1 0 30 100 0 D 1 3).toOption.getD default)
      rfl rfl rfl rfl
  have hm : maturedSum genesisE2.hub genesisE2.chain.unbondingTime genesisE2.chain.time = 0 := by decide
  refine ⟨⟨⟨[], [], rfl, (fun _ h => by cases h), (fun _ h => by cases h), by decide⟩, hc, rfl, ?_⟩, hh,
    ⟨by decide, (fun e he => by cases he), by decide, ?_,
      ⟨[], [], rfl, (fun _ h => by cases h), (fun _ h => by cases h), by rw [hm]; decide⟩⟩⟩
  · show genesisE2.hub.owed ≤ genesisE2.hub.prevHubBalance
    decide
  · intro i x hx
    have : genesisE2.hub.hist i = none := rfl
    rw [this] at hx; cases hx

end Krp
