/-
  C03 — Reported exchange rates equal backing over claims and price every mint/redeem.
  Rates are atomics (scale D = 10^18); `rateOf B S R = if B = 0 ∨ S + R = 0 then D else ⌊B·D/(S+R)⌋`.
-/
import Krp.Props.C12
import Krp.Lemmas.TokensFixed
namespace Krp
open HubSt

/-- Whenever stake is bonded (delegations exist and something is booked) the State query reports,
    for each token, bonded / (circulating supply + pending unbond requests) of the same moment —
    and exactly 1 when either is zero. A handler that forgot the pending-request term, or used a
    stale supply, would not satisfy this. -/
theorem C03_reported_rates (h st : HubSt) (e : HubEnv) (hx : h.actualState e = .ok st)
    (hd : e.delegations ≠ []) (hb : h.bBond + h.sBond ≠ 0) :
    ∃ bs ss, h.bSupplyQ e = .ok bs ∧ h.sSupplyQ e = .ok ss ∧
      st.bRate = (if st.bBond = 0 ∨ bs + h.reqB = 0 then D else st.bBond * D / (bs + h.reqB)) ∧
      st.sRate = (if st.sBond = 0 ∨ ss + h.reqS = 0 then D else st.sBond * D / (ss + h.reqS)) := by
  have hs := actualState_spec h st e hx
  rcases hs.2 with ⟨hc, _⟩ | ⟨bs, ss, _, _, hbs, hss, hrb, hrs, _⟩
  · rcases hc with hc | hc
    · exact absurd hc hd
    · exact absurd hc hb
  · exact ⟨bs, ss, hbs, hss, hrb, hrs⟩

/-- every rounding of a rate is in the pool's favour: rate × claims ≤ backing × 10^18 -/
theorem C03_rate_rounds_down (B S R : Nat) (h : 0 < B ∨ S + R = 0) :
    rateOf B S R * (S + R) ≤ B * D := rateOf_mul_le B S R h

/-- Bond for bSei mints ⌊payment / rate⌋ less only the peg fee; the minted tokens are never worth
    more than the payment; the pool grows by exactly the payment; the stored rate is the new
    backing over the new claims. No tokens for a zero payment: a payment is always positive. -/
theorem C03_bond_bsei (h h' : HubSt) (e : HubEnv) (sender : Addr) (funds : List (Denom × Nat))
    (ms : List Msg) (hx : h.bondB e sender funds = .ok (h', ms)) :
    ∃ p st mint tok, paymentOf funds = .ok p ∧ 0 < p ∧ h.actualState e = .ok st ∧
      mint ≤ decDiv p st.bRate ∧ (st.thr ≤ st.bRate → mint = decDiv p st.bRate) ∧
      mint * st.bRate ≤ p * D ∧
      h'.bBond = st.bBond + p ∧ h'.sBond = st.sBond ∧
      h'.bRate = rateOf (st.bBond + p) ((st.bSupplyQ e).toOption.getD 0 + mint) h.reqB ∧
      tokMsg e.self tok (.mint sender mint) ∈ ms := by
  obtain ⟨p, st, mint, delegs, tok, hp, hst, _, hfee, _, _, hh, hms⟩ := bondB_spec h h' e sender funds ms hx
  have hf := pegFeeOnMint_spec st _ _ _ _ hfee
  refine ⟨p, st, mint, tok, hp, paymentOf_pos funds p hp, hst, hf.1, hf.2.2.1, ?_, by rw [hh], by rw [hh], by rw [hh], by rw [hms]; simp⟩
  exact Nat.le_trans (Nat.mul_le_mul_right _ hf.1) (decDiv_mul_le p st.bRate)

/-- Bond for stSei mints exactly ⌊payment / rate⌋. -/
theorem C03_bond_stsei (h h' : HubSt) (e : HubEnv) (sender : Addr) (funds : List (Denom × Nat))
    (ms : List Msg) (hx : h.bondS e sender funds = .ok (h', ms)) :
    ∃ p st tok, paymentOf funds = .ok p ∧ 0 < p ∧ h.actualState e = .ok st ∧
      tokMsg e.self tok (.mint sender (decDiv p st.sRate)) ∈ ms ∧
      decDiv p st.sRate * st.sRate ≤ p * D ∧
      h'.sBond = st.sBond + p ∧ h'.bBond = st.bBond := by
  obtain ⟨p, st, delegs, tok, hp, hst, _, _, _, hh, hms⟩ := bondS_spec h h' e sender funds ms hx
  exact ⟨p, st, tok, hp, paymentOf_pos funds p hp, hst, by rw [hms]; simp, decDiv_mul_le _ _, by rw [hh], by rw [hh]⟩

/-- Convert stSei→bSei values the tokens at ⌊amount × source rate⌋ coins, moves exactly that value
    between the pools and mints ⌊value / destination rate⌋ bSei less only the peg fee. -/
theorem C03_convert_stsei_bsei (h h' : HubSt) (e : HubEnv) (amount : Nat) (user : Addr) (ms : List Msg)
    (hx : h.convertSB e amount user = .ok (h', ms)) :
    ∃ st mint sTok bTok, h.actualState e = .ok st ∧
      mint ≤ decDiv (mulDec amount st.sRate) st.bRate ∧
      (st.thr ≤ st.bRate → mint = decDiv (mulDec amount st.sRate) st.bRate) ∧
      h'.bBond = st.bBond + mulDec amount st.sRate ∧ h'.sBond + mulDec amount st.sRate = st.sBond ∧
      ms = [tokMsg e.self bTok (.mint user mint), tokMsg e.self sTok (.burn amount)] := by
  obtain ⟨st, sTok, bTok, bs, ss, mint, hst, _, _, _, _, _, hfee, hle, _, hh, hms⟩ := convertSB_spec h h' e amount user ms hx
  have hf := pegFeeOnMint_spec st _ _ _ _ hfee
  exact ⟨st, mint, sTok, bTok, hst, hf.1, hf.2.2.1, by rw [hh], by rw [hh]; simp only []; omega, hms⟩

/-- Convert bSei→stSei: the same with the fee taken on the bSei side first. -/
theorem C03_convert_bsei_stsei (h h' : HubSt) (e : HubEnv) (amount : Nat) (user : Addr) (ms : List Msg)
    (hx : h.convertBS e amount user = .ok (h', ms)) :
    ∃ st withFee sTok bTok, h.actualState e = .ok st ∧ withFee ≤ amount ∧
      (st.thr ≤ st.bRate → withFee = amount) ∧
      h'.bBond + mulDec withFee st.bRate = st.bBond ∧ h'.sBond = st.sBond + mulDec withFee st.bRate ∧
      ms = [tokMsg e.self sTok (.mint user (decDiv (mulDec withFee st.bRate) st.sRate)),
            tokMsg e.self bTok (.burn amount)] := by
  obtain ⟨st, sTok, bTok, bs, ss, withFee, hst, _, _, _, _, hfee, _, hle, _, hh, hms⟩ := convertBS_spec h h' e amount user ms hx
  have hf := pegFeeOnBurn_spec st _ _ _ hfee
  exact ⟨st, withFee, sTok, bTok, hst, hf.1, hf.2.2.1, by rw [hh]; simp only []; omega, by rw [hh], hms⟩

/-- A batch of unbond requests is undelegated for ⌊requests × rate⌋ coins per token, the history
    records the rates applied, and the books fall by exactly that amount. -/
theorem C03_batch_undelegation (h h' : HubSt) (e : HubEnv) (ms : List Msg)
    (hx : h.processUndelegations e = .ok (h', ms)) :
    h'.bBond + mulDec h.reqB h.bRate = h.bBond ∧ h'.sBond + mulDec h.reqS h.sRate = h.sBond ∧
    h'.hist h.batchId = some { time := e.now, bAmt := h.reqB, bApplied := h.bRate, bWithdraw := h.bRate,
                               sAmt := h.reqS, sApplied := h.sRate, sWithdraw := h.sRate, released := false } := by
  have hs := processUndelegations_spec h h' e ms hx
  refine ⟨by omega, by omega, ?_⟩
  rw [hs.2.2.2.2.2.2.2.2.2.2.2.1]; simp

def undelegatedBy : List Msg → Nat
  | [] => 0
  | Msg.undelegate _ _ a :: ms => a + undelegatedBy ms
  | _ :: ms => undelegatedBy ms

private theorem undelegatedBy_zip (self : Addr) (vs : List (Addr × Nat)) (plan : List Nat)
    (hl : plan.length = vs.length) :
    undelegatedBy (zipMsgs (fun v p => Msg.undelegate self v p) vs plan) = plan.sum := by
  induction vs generalizing plan with
  | nil => cases plan <;> simp_all [zipMsgs, undelegatedBy]
  | cons v vs ih =>
    cases plan with
    | nil => simp at hl
    | cons p ps =>
      simp only [zipMsgs, List.sum_cons]
      have := ih ps (by simpa using hl)
      split
      · rename_i hp; simp only [List.nil_append, this, hp]; omega
      · simp only [List.singleton_append, undelegatedBy, this]

/-- …and the Undelegate messages of that batch sum to exactly that amount. -/
theorem C03_undelegate_messages_sum (e : HubEnv) (claim : Nat) (ms : List Msg)
    (hx : pickValidator e claim = .ok ms) : undelegatedBy ms = claim := by
  unfold pickValidator at hx
  simp only [] at hx
  split at hx
  · cases hx
  · rename_i plan hplan
    injection hx with hx; subst hx
    have := C12_undeleg_conserves 0 claim _ plan hplan
    rw [undelegatedBy_zip _ _ _ (by simpa using this.2.1)]
    exact this.1

/-! Non-vacuity: rate 0.9, payment 1000 → 1111 tokens, worth at most the payment. -/
example : decDiv 1000 900000000000000000 = 1111 ∧ 1111 * 900000000000000000 ≤ 1000 * D := by decide

theorem env_tokens (s : Sys) (e : EnvOp) :
    (s.env e).hub.bsei = s.hub.bsei ∧ (s.env e).hub.stsei = s.hub.stsei := by
  by_cases h : ∃ u b a, e = .seedLegacy u b a
  · obtain ⟨u, b, a, rfl⟩ := h; exact ⟨rfl, rfl⟩
  · have := env_same s e (fun u b a he => h ⟨u, b, a, he⟩)
    rw [this.hub]; exact ⟨rfl, rfl⟩

/-- the token contracts registered in the hub stay registered through every history: transactions
    by anyone (the owner included — the addresses are write-once), failures, environment events -/
theorem tokens_registered_reachable (s : Sys) (l : List Step)
    (hb : s.hub.bsei = some bseiA) (hs : s.hub.stsei = some stseiA) :
    (s.steps l).hub.bsei = some bseiA ∧ (s.steps l).hub.stsei = some stseiA :=
  steps_inv (fun x => x.hub.bsei = some bseiA ∧ x.hub.stsei = some stseiA)
    (fun x m x' ms hp hx =>
      have k := handle_tokens x x' m ms hx
      ⟨k.bsei _ hp.1, k.stsei _ hp.2⟩)
    (fun x e hp => by rw [(env_tokens x e).1, (env_tokens x e).2]; exact hp) l s ⟨hb, hs⟩

/-- **The State query, in the composed system.** With the two tokens registered, whenever stake is
    bonded the rates the hub reports are the bonded stake of each pool over that token contract's
    own total supply of the same moment plus the requests waiting in the open batch — and since the
    supply is the sum of all account balances (`Token.WF`, C18), over *the holders' balances*. -/
theorem C03_system_state_query (s : Sys) (st : HubSt)
    (hb : s.hub.bsei = some bseiA) (hs : s.hub.stsei = some stseiA) (wb : s.bsei.WF) (ws : s.stsei.WF)
    (hx : s.hub.actualState s.hubEnv = .ok st)
    (hd : s.delegationsOf hubA ≠ []) (hbd : s.hub.bBond + s.hub.sBond ≠ 0) :
    st.bRate = rateOf st.bBond (sumOn s.bsei.holders s.bsei.bal) s.hub.reqB ∧
    st.sRate = rateOf st.sBond (sumOn s.stsei.holders s.stsei.bal) s.hub.reqS ∧
    st.bRate * (s.bsei.supply + s.hub.reqB) ≤ (if st.bBond = 0 then s.bsei.supply + s.hub.reqB else st.bBond) * D := by
  obtain ⟨bs, ss, hbs, hss, hrb, hrs⟩ := C03_reported_rates s.hub st s.hubEnv hx hd hbd
  have e1 : bs = s.bsei.supply := by
    simp only [bSupplyQ, hb, Sys.hubEnv, Sys.supplyOf, if_true] at hbs
    injection hbs with hbs; exact hbs.symm
  have e2 : ss = s.stsei.supply := by
    simp only [sSupplyQ, hs, Sys.hubEnv, Sys.supplyOf] at hss
    rw [if_pos trivial] at hss
    injection hss with hss; exact hss.symm
  subst e1; subst e2
  refine ⟨by rw [wb.sum]; exact hrb, by rw [ws.sum]; exact hrs, ?_⟩
  rw [hrb]
  split
  · rename_i hz
    split
    · exact Nat.le_of_eq (Nat.mul_comm _ _)
    · rename_i hne
      have : s.bsei.supply + s.hub.reqB = 0 := by
        rcases hz with hz | hz
        · exact absurd hz hne
        · exact hz
      rw [this]; simp
  · rename_i hz
    rw [if_neg (by intro h; exact hz (Or.inl h))]
    exact Nat.div_mul_le_self _ _

/-- **Every reachable state.** After any history from a state with both tokens registered and
    well-formed ledgers (genesis), the State query prices each token at bonded stake over the sum of
    the holders' balances plus the pending requests. -/
theorem C03_reachable_state_query (s : Sys) (l : List Step) (st : HubSt)
    (hb : s.hub.bsei = some bseiA) (hs : s.hub.stsei = some stseiA) (wb : s.bsei.WF) (ws : s.stsei.WF)
    (hx : (s.steps l).hub.actualState (s.steps l).hubEnv = .ok st)
    (hd : (s.steps l).delegationsOf hubA ≠ []) (hbd : (s.steps l).hub.bBond + (s.steps l).hub.sBond ≠ 0) :
    st.bRate = rateOf st.bBond (sumOn (s.steps l).bsei.holders (s.steps l).bsei.bal) (s.steps l).hub.reqB ∧
    st.sRate = rateOf st.sBond (sumOn (s.steps l).stsei.holders (s.steps l).stsei.bal) (s.steps l).hub.reqS := by
  have t := tokens_registered_reachable s l hb hs
  have w := C18_reachable s l wb ws
  have r := C03_system_state_query (s.steps l) st t.1 t.2 w.1 w.2.1 hx hd hbd
  exact ⟨r.1, r.2.1⟩

/-! Non-vacuity of `C03_reachable_state_query`: genesis has both tokens registered. -/
example : genesisSys.hub.bsei = some bseiA ∧ genesisSys.hub.stsei = some stseiA := by decide

end Krp
