/-
  C06 — Slashing is recognised exactly and shared pro-rata between the two pools.
  `Δ` = the hub's surviving delegated amount as the staking module reports it.
-/
import Krp.Lemmas.Arith
import Krp.Lemmas.Reach
namespace Krp
open HubSt

/-- The slashing check (CheckSlashing, or the one inside bond/unbond/convert): when the books
    exceed the delegations they are set to exactly the surviving amount; the bSei pool gets its
    pro-rata share within two base units (never more than the exact share), the stSei pool the
    rest. -/
theorem C06_recognised_exactly (h st : HubSt) (e : HubEnv) (hx : h.actualState e = .ok st)
    (hd : e.delegations ≠ []) (hlt : (e.delegations.map (·.2)).sum < h.bBond + h.sBond)
    (hE1 : (e.delegations.map (·.2)).sum ≤ D) :
    st.bBond + st.sBond = (e.delegations.map (·.2)).sum ∧
    st.bBond * (h.bBond + h.sBond) ≤ (e.delegations.map (·.2)).sum * h.bBond ∧
    (e.delegations.map (·.2)).sum * h.bBond < (st.bBond + 2) * (h.bBond + h.sBond) ∧
    (e.delegations.map (·.2)).sum * h.sBond ≤ st.sBond * (h.bBond + h.sBond) ∧
    st.sBond * (h.bBond + h.sBond) < (e.delegations.map (·.2)).sum * h.sBond + 2 * (h.bBond + h.sBond) := by
  rcases (actualState_spec h st e hx).2 with ⟨hc, _⟩ | ⟨bs, ss, _, hz, _, _, _, _, hcase⟩
  · rcases hc with hc | hc
    · exact absurd hc hd
    · omega
  · rcases hcase with ⟨hle, _, _⟩ | ⟨_, hb, hsum⟩
    · omega
    · have l := split_lower (e.delegations.map (·.2)).sum h.bBond (h.bBond + h.sBond)
      have u := split_upper (e.delegations.map (·.2)).sum h.bBond (h.bBond + h.sBond) (by omega) hE1
      rw [← hb] at l u
      generalize (e.delegations.map (·.2)).sum = Δ at hsum l u ⊢
      -- Δ·Bb + Δ·Bs = Δ·T = b'·T + s'·T, so the bounds on `b'·T` turn into bounds on `s'·T`
      have e1 : Δ * (h.bBond + h.sBond) = Δ * h.bBond + Δ * h.sBond := Nat.mul_add ..
      have e2 : Δ * (h.bBond + h.sBond) =
          st.bBond * (h.bBond + h.sBond) + st.sBond * (h.bBond + h.sBond) := by
        rw [← hsum, Nat.add_mul]
      have e3 := Nat.add_mul st.bBond 2 (h.bBond + h.sBond)
      exact ⟨hsum, l, u, by omega, by omega⟩

/-- When the delegated amount is not below the books nothing changes: a check can never raise a
    pool (and an unchanged pool keeps every claim untouched). -/
theorem C06_no_slash_no_change (h st : HubSt) (e : HubEnv) (hx : h.actualState e = .ok st)
    (hge : h.bBond + h.sBond ≤ (e.delegations.map (·.2)).sum) :
    st.bBond = h.bBond ∧ st.sBond = h.sBond ∧ SameBooks h st := by
  have hs := actualState_spec h st e hx
  rcases hs.2 with ⟨_, he⟩ | ⟨bs, ss, _, _, _, _, _, _, hcase⟩
  · subst he; exact ⟨rfl, rfl, hs.1⟩
  · rcases hcase with ⟨_, hb, hsb⟩ | ⟨hlt, _, _⟩
    · exact ⟨hb, hsb, hs.1⟩
    · omega

/-- A check never raises either pool, slash or no slash. -/
theorem C06_never_raises (h st : HubSt) (e : HubEnv) (hx : h.actualState e = .ok st) :
    st.bBond ≤ h.bBond ∧ st.bBond + st.sBond ≤ h.bBond + h.sBond := by
  rcases (actualState_spec h st e hx).2 with ⟨_, he⟩ | ⟨bs, ss, _, hz, _, _, _, _, hcase⟩
  · subst he; exact ⟨Nat.le_refl _, Nat.le_refl _⟩
  · rcases hcase with ⟨_, hb, hsb⟩ | ⟨hlt, hb, hsum⟩
    · omega
    · refine ⟨?_, by omega⟩
      have l := split_lower (e.delegations.map (·.2)).sum h.bBond (h.bBond + h.sBond)
      rw [← hb] at l
      have : (e.delegations.map (·.2)).sum * h.bBond ≤ h.bBond * (h.bBond + h.sBond) :=
        Nat.mul_comm (h.bBond + h.sBond) h.bBond ▸ Nat.mul_le_mul_right h.bBond (Nat.le_of_lt hlt)
      exact Nat.le_of_mul_le_mul_right (Nat.le_trans l this) (by omega)

/-- Stake slashed while unbonding: the loss charged to one batch side is its pro-rata share of the
    side's total loss, within two base units (weight floored to 18 places, +1 against the
    claimant). `U` = the batch side's undelegated amount, `Tot` = the release group's total for
    that token, `sl` = the group's loss on that token. -/
theorem C06_release_group_pro_rata (U Tot sl : Nat) (hT : 0 < Tot) (hsl : sl ≤ D) (hne : sl ≠ 0) :
    let charged := mulDec sl (fromRatio U Tot) + 1
    (charged - 1) * Tot ≤ sl * U ∧ sl * U < (charged + 1) * Tot := by
  intro charged
  refine ⟨?_, split_upper sl U Tot hT hsl⟩
  show (mulDec sl (fromRatio U Tot) + 1 - 1) * Tot ≤ sl * U
  rw [Nat.add_sub_cancel]
  exact split_lower sl U Tot

/-! Non-vacuity: 1000 bSei + 500 stSei booked, 10 % slashed. -/
example : mulDec 1350 (fromRatio 1000 1500) = 899 ∧ 1350 - 899 = 451 := by decide

/-- **CheckSlashing as a whole transaction, after a slash, in the composed system.** Sent by anyone
    to an unpaused hub whose books exceed what is still delegated (validators were slashed since
    the last check): the transaction succeeds, emits nothing, and afterwards the booked stake is
    exactly the surviving delegated amount, split between the two pools pro rata within two base
    units; nothing but the hub's pools and stored rates changed. -/
theorem C06_check_slashing_tx (s : Sys) (u : Addr) (st : HubSt) (hp : s.hub.isPaused = false)
    (hact : s.hub.actualState s.hubEnv = .ok st)
    (hd : s.delegationsOf hubA ≠ [])
    (hlt : ((s.delegationsOf hubA).map (·.2)).sum < s.hub.bBond + s.hub.sBond)
    (hE1 : ((s.delegationsOf hubA).map (·.2)).sum ≤ D) :
    s.exec (.wasm u hubA (.hub .checkSlashing) []) = ({ s with hub := st }, .ok ()) ∧
    st.bBond + st.sBond = ((s.delegationsOf hubA).map (·.2)).sum ∧
    st.bBond * (s.hub.bBond + s.hub.sBond) ≤ ((s.delegationsOf hubA).map (·.2)).sum * s.hub.bBond ∧
    ((s.delegationsOf hubA).map (·.2)).sum * s.hub.bBond < (st.bBond + 2) * (s.hub.bBond + s.hub.sBond) := by
  have r := C06_recognised_exactly s.hub st s.hubEnv hact hd hlt hE1
  have H : s.handle (.wasm u hubA (.hub .checkSlashing) []) = .ok ({ s with hub := st }, []) :=
    handle_hub_call (by
      simp only [hubExec, hp, Bool.false_eq_true, if_false, bind, Except.bind, pure, Except.pure, hact])
  exact ⟨(Runs.step H (.nil _)).exec (by omega), r.1, r.2.1, r.2.2.1⟩

end Krp
