/-
  C11 — Pause blocks every state-changing path except the owner's unpause.
-/
import Krp.Props.C10
namespace Krp
open HubSt

/-- While paused, every hub message other than UpdateParams and the wait-list migration fails, for
    every sender, payload and funds (no storage change, no outgoing message: A-CHAIN-1). -/
theorem C11_paused_blocks (h : HubSt) (e : HubEnv) (sender : Addr) (funds : List (Denom × Nat))
    (m : HubMsg) (hp : h.isPaused = true)
    (hm : (∀ a b c d p r, m ≠ .updateParams a b c d p r) ∧ (∀ l, m ≠ .migrateWaitList l)) :
    isErr (hubExec h e sender funds m) := by
  cases m with
  | updateParams a b c d p r => exact absurd rfl (hm.1 a b c d p r)
  | migrateWaitList l => exact absurd rfl (hm.2 l)
  | _ => simp only [hubExec, hp, if_true]; exact ⟨_, rfl⟩

/-- While paused UpdateParams is still owner-only, and the migration changes no pool, batch,
    history, parameter or configuration — only wait-list entries (and the pause flag once done). -/
theorem C11_paused_exceptions (h : HubSt) (e : HubEnv) (sender : Addr) (funds : List (Denom × Nat)) :
    (∀ a b c d p r, sender ≠ h.creator → isErr (hubExec h e sender funds (.updateParams a b c d p r))) ∧
    (∀ l h' ms, hubExec h e sender funds (.migrateWaitList l) = .ok (h', ms) →
      h.isPaused = true ∧ ms = [] ∧ SameConfig h h' ∧ h'.bBond = h.bBond ∧ h'.sBond = h.sBond ∧
      h'.batchId = h.batchId ∧ h'.reqB = h.reqB ∧ h'.reqS = h.reqS ∧ h'.hist = h.hist ∧
      h'.prevHubBalance = h.prevHubBalance ∧ h'.fee = h.fee ∧ h'.thr = h.thr) := by
  constructor
  · intro a b c d p r hne
    exact C10_hub h e sender funds _ hne
  · intro l h' ms hx
    cases hubExec_route hx with
    | migrate _ hp hh hm =>
      obtain ⟨_, _, _, _, _, _, e⟩ := migrate_shape h l
      rw [hh, e]
      exact ⟨hp, hm, ⟨rfl, rfl, rfl, rfl, rfl, rfl, rfl, rfl, rfl⟩, rfl, rfl, rfl, rfl, rfl, rfl, rfl, rfl, rfl⟩

/-- The hub cannot be un-paused while legacy wait-list entries remain: an UpdateParams that would
    leave `paused` false (or unset) fails, and the migration clears the flag only when none remain. -/
theorem C11_no_unpause_with_legacy (h : HubSt) (e : HubEnv) (sender : Addr) (funds : List (Denom × Nat))
    (hl : h.legacy ≠ []) :
    (∀ a b c d p r, p ≠ some true → isErr (hubExec h e sender funds (.updateParams a b c d p r))) ∧
    (∀ l, (h.migrate l).legacy ≠ [] → (h.migrate l).paused = h.paused) := by
  constructor
  · intro a b c d p r hp
    refine isErr_of_not_ok fun _ hx => ?_
    cases hubExec_route hx with
    | params _ _ _ _ _ _ hr =>
      rcases (updateParams_spec hr).2.2.1 with hp' | hl'
      · exact hp hp'
      · exact hl hl'
  · intro l hrest
    exact (migrate_frame h l).2.2.2.2.2.2.resolve_right hrest

/-- Pause then un-pause restores exactly the pre-pause state: every pool, rate, batch, claim,
    history entry, parameter and address is what it was; only the flag's representation may differ
    (`Some(false)` instead of whatever it was). Needs the threshold in range (C20). -/
theorem C11_pause_unpause_identity (h h1 h2 : HubSt) (hthr : h.thr ≤ D)
    (hp : h.updateParams h.creator none none none none (some true) none = .ok h1)
    (hu : h1.updateParams h1.creator none none none none (some false) none = .ok h2) :
    h2 = { h with paused := some false } := by
  obtain ⟨_, _, _, rfl⟩ := updateParams_spec hp
  obtain ⟨_, _, _, rfl⟩ := updateParams_spec hu
  simp only [Nat.min_eq_left hthr, Option.getD]

/-! Non-vacuity. -/
example : ∃ h : HubSt, h.isPaused = true :=
  ⟨{ (default : HubSt) with paused := some true }, rfl⟩

/-! ### Queries keep working

  The State query (`query_actual_state`: pools as the chain's delegations define them, rates
  re-derived) does not read a single parameter: on a hub whose parameters — pause flag included —
  were rewritten it gives the answer it gave before, with the new parameters alongside. -/

def setParams (h : HubSt) (ep ub fee thr : Nat) (rd : Denom) (p : Option Bool) : HubSt :=
  { h with epoch := ep, unbonding := ub, fee := fee, thr := thr, rewardDenom := rd, paused := p }

theorem C11_state_query_ignores_params (h : HubSt) (e : HubEnv) (ep ub fee thr : Nat) (rd : Denom) (p : Option Bool) :
    (setParams h ep ub fee thr rd p).actualState e =
      match h.actualState e with
      | .ok st => .ok (setParams st ep ub fee thr rd p)
      | .error err => .error err := by
  unfold actualState
  have hb : (setParams h ep ub fee thr rd p).bSupplyQ e = h.bSupplyQ e := rfl
  have hs : (setParams h ep ub fee thr rd p).sSupplyQ e = h.sSupplyQ e := rfl
  by_cases h1 : e.delegations = []
  · simp only [h1, if_true]
  · simp only [h1, if_false]
    have e1 : (setParams h ep ub fee thr rd p).bBond = h.bBond := rfl
    have e2 : (setParams h ep ub fee thr rd p).sBond = h.sBond := rfl
    have e3 : (setParams h ep ub fee thr rd p).reqB = h.reqB := rfl
    have e4 : (setParams h ep ub fee thr rd p).reqS = h.reqS := rfl
    rw [e1, e2, hb, hs]
    by_cases h2 : h.bBond + h.sBond = 0
    · simp only [h2, if_true]
    · simp only [h2, if_false, bind, Except.bind]
      cases h.bSupplyQ e with
      | error err => rfl
      | ok bs =>
        cases h.sSupplyQ e with
        | error err => rfl
        | ok ss =>
          simp only [e3, e4]
          split
          · split
            · rfl
            · rfl
          · rfl

/-- The owner pauses (or re-parameterises) the hub: whatever the State query answered before, it
    answers afterwards — same pools, same rates, same batch bookkeeping — and it fails afterwards
    only if it failed before. -/
theorem C11_pause_keeps_state_query (h h' : HubSt) (e : HubEnv) (sender : Addr)
    (ep ub fee thr : Option Nat) (p : Option Bool) (rd : Option Denom)
    (hx : h.updateParams sender ep ub fee thr p rd = .ok h') :
    (∀ st, h.actualState e = .ok st → ∃ st', h'.actualState e = .ok st' ∧
        st'.bRate = st.bRate ∧ st'.sRate = st.sRate ∧ st'.bBond = st.bBond ∧ st'.sBond = st.sBond ∧
        st'.reqB = st.reqB ∧ st'.reqS = st.reqS ∧ st'.prevHubBalance = st.prevHubBalance ∧
        st'.lastProcessedBatch = st.lastProcessedBatch ∧ st'.lastUnbondedTime = st.lastUnbondedTime ∧
        st'.lastIndexMod = st.lastIndexMod) ∧
    (∀ err, h'.actualState e = .error err → h.actualState e = .error err) := by
  have hh : h' = setParams h (ep.getD h.epoch) (ub.getD h.unbonding) (fee.getD h.fee) (min (thr.getD h.thr) D)
      (rd.getD h.rewardDenom) p := (updateParams_spec hx).2.2.2
  subst hh
  rw [C11_state_query_ignores_params]
  constructor
  · intro st hst
    rw [hst]
    exact ⟨_, rfl, rfl, rfl, rfl, rfl, rfl, rfl, rfl, rfl, rfl, rfl⟩
  · intro err
    cases h.actualState e with
    | ok st => intro hc; cases hc
    | error e0 => intro hc; injection hc with hc; rw [hc]

/-! Non-vacuity: a hub with stake and delegations answers the State query, paused or not. -/
example : ∃ st, ({ (default : HubSt) with bBond := 5, bsei := some 101, stsei := some 102, paused := some true }).actualState
    { self := 100, now := 0, hubBalance := 0, delegations := [(201, 5)], supplyOf := fun _ => .ok 5,
      validatorsOf := fun _ => .ok [] } = .ok st := ⟨_, rfl⟩

/-- As a whole transaction: while the hub is paused, a top-level hub message other than UpdateParams /
    MigrateUnbondWaitList — from anyone, with or without funds — fails and changes nothing anywhere. -/
theorem C11_system_paused (s : Sys) (sender : Addr) (funds : List (Denom × Nat)) (hm : HubMsg)
    (hp : s.hub.isPaused = true)
    (hne : (∀ a b c d p r, hm ≠ .updateParams a b c d p r) ∧ (∀ l, hm ≠ .migrateWaitList l)) :
    ∃ err, s.exec (.wasm sender hubA (.hub hm) funds) = (s, .error err) :=
  exec_rejected_hub s sender funds hm (fun e _ => C11_paused_blocks s.hub e sender funds hm hp hne)

end Krp
