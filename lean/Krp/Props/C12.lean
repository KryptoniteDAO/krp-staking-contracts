/-
  C12 — Stake distribution conserves amounts and never worsens validator imbalance.

  The two passes are specified in Krp/Lemmas/Registry.lean (`delegPass_spec`, `undelegPass_spec`).
  Quantified over every list (any length, any order, ties, zeros) and every amount; the only
  side conditions are the ones the Rust itself enforces (non-empty list, u128 range,
  amount ≤ total for undelegation).
-/
import Krp.Lemmas.Registry
namespace Krp

/-- `calculate_delegations` fails exactly for an empty list (or when the totals leave u128). -/
theorem C12_deleg_fails_iff (amount : Nat) (ds : List Nat) :
    calculateDelegations amount ds = none ↔ ds = [] ∨ U128 ≤ ds.sum + amount := by
  unfold calculateDelegations
  by_cases h1 : ds = []
  · simp [h1]
  · by_cases h2 : ds.sum + amount ≥ U128
    · simp [h1, h2]
    · simp [h1, h2]

private theorem deleg_some (amount : Nat) (ds : List Nat) (r : Nat) (plan : List Nat)
    (h : calculateDelegations amount ds = some (r, plan)) :
    ds ≠ [] ∧ delegPass ((ds.sum + amount) / ds.length) ((ds.sum + amount) % ds.length) 0 amount ds =
      (r, plan) := by
  unfold calculateDelegations at h
  split at h
  · cases h
  · split at h
    · cases h
    · exact ⟨‹_›, Option.some.inj h⟩

/-- The whole amount is placed: nothing is left over and the plan sums to the amount. -/
theorem C12_deleg_conserves (amount : Nat) (ds : List Nat) (r : Nat) (plan : List Nat)
    (h : calculateDelegations amount ds = some (r, plan)) :
    r = 0 ∧ plan.sum = amount ∧ plan.length = ds.length := by
  obtain ⟨hne, h⟩ := deleg_some amount ds r plan h
  have hs := delegPass_spec ((ds.sum + amount) / ds.length) ((ds.sum + amount) % ds.length) ds 0 amount
  rw [h] at hs
  -- the room below the targets, `targetSum − ds.sum = amount`, is enough for the whole amount
  have hlen : 0 < ds.length := List.length_pos_iff.mpr hne
  have h1 := targetSum_le_cap ((ds.sum + amount) / ds.length) ((ds.sum + amount) % ds.length) 0 ds
  have h2 := targetSum_eq ((ds.sum + amount) / ds.length) ((ds.sum + amount) % ds.length) 0 ds
  have h3 := Nat.mod_lt (ds.sum + amount) hlen
  have h4 := Nat.div_add_mod (ds.sum + amount) ds.length
  rw [Nat.sub_zero, Nat.min_eq_left (Nat.le_of_lt h3)] at h2
  simp only at hs
  omega

/-- Nothing goes to a validator already above its even share, and nobody is lifted above the
    even share rounded up. -/
theorem C12_deleg_balanced (amount : Nat) (ds : List Nat) (r : Nat) (plan : List Nat)
    (h : calculateDelegations amount ds = some (r, plan)) (j : Nat) :
    (nth ds j > (ds.sum + amount) / ds.length + extraCoin j ((ds.sum + amount) % ds.length) →
        nth plan j = 0) ∧
    (0 < nth plan j → nth ds j + nth plan j ≤ (ds.sum + amount + ds.length - 1) / ds.length) := by
  obtain ⟨hne, h⟩ := deleg_some amount ds r plan h
  have hlen : 0 < ds.length := List.length_pos_iff.mpr hne
  have hj := delegPass_le_cap ((ds.sum + amount) / ds.length) ((ds.sum + amount) % ds.length) ds 0 amount j
  rw [h] at hj
  simp only [Nat.zero_add] at hj
  constructor
  · intro hgt; omega
  · intro hpos
    have hle : nth ds j + nth plan j ≤
        (ds.sum + amount) / ds.length + extraCoin j ((ds.sum + amount) % ds.length) := by omega
    refine Nat.le_trans hle ?_
    rw [Nat.le_div_iff_mul_le hlen]
    have h4 := Nat.div_add_mod (ds.sum + amount) ds.length
    unfold extraCoin
    split
    · rw [Nat.add_mul, Nat.mul_comm _ ds.length]; omega
    · rw [Nat.add_zero, Nat.mul_comm _ ds.length]; omega

private theorem undeleg_take_ge (amount : Nat) (ds : List Nat) (hne : ds ≠ [])
    (hle : amount ≤ ds.sum) :
    amount ≤ takeSum ((ds.sum - amount) / ds.length) ((ds.sum - amount) % ds.length) 0 ds := by
  have hlen : 0 < ds.length := List.length_pos_iff.mpr hne
  have h1 := sum_le_take ((ds.sum - amount) / ds.length) ((ds.sum - amount) % ds.length) 0 ds
  have h2 := targetSum_eq ((ds.sum - amount) / ds.length) ((ds.sum - amount) % ds.length) 0 ds
  have h3 := Nat.mod_lt (ds.sum - amount) hlen
  have h4 := Nat.div_add_mod (ds.sum - amount) ds.length
  rw [Nat.sub_zero, Nat.min_eq_left (Nat.le_of_lt h3)] at h2
  omega

/-- `calculate_undelegations` with any fuel ≥ 1: the `while` loop exits after its first pass, which
    takes the whole amount -/
private theorem undeleg_eq (fuel amount : Nat) (ds : List Nat) :
    calculateUndelegations (fuel + 1) amount ds =
      if ds = [] ∨ U128 ≤ ds.sum ∨ ds.sum < amount then none
      else some (if amount = 0 then List.replicate ds.length 0 else
        (undelegPass ((ds.sum - amount) / ds.length) ((ds.sum - amount) % ds.length) 0 amount ds).2) := by
  unfold calculateUndelegations
  by_cases h1 : ds = []
  · simp [h1]
  · by_cases h2 : ds.sum ≥ U128
    · simp [h1, h2]
    · by_cases h3 : amount > ds.sum
      · simp [h1, h2, h3]
      · rw [if_neg h1, if_neg h2, if_neg h3, if_neg (not_or.mpr ⟨h1, not_or.mpr ⟨h2, h3⟩⟩)]
        cases amount with
        | zero => rfl
        | succ a =>
          have hs := undelegPass_spec ((ds.sum - (a + 1)) / ds.length) ((ds.sum - (a + 1)) % ds.length) ds 0 (a + 1)
          have ht := undeleg_take_ge (a + 1) ds h1 (by omega)
          have h0 : (undelegPass ((ds.sum - (a + 1)) / ds.length) ((ds.sum - (a + 1)) % ds.length) 0 (a + 1) ds).1 = 0 := by
            omega
          have hz : ∀ l acc, undelegLoop fuel 0 l acc = some acc := fun _ _ => by cases fuel <;> rfl
          simp only [undelegLoop, h0, hz, Nat.add_one_ne_zero, if_false]
          rw [zipAdd_zero _ _ hs.2.2]

/-- `calculate_undelegations` terminates (one pass of the `while`), and fails exactly when the
    list is empty or the request exceeds the total (or the total leaves u128). -/
theorem C12_undeleg_fails_iff (fuel amount : Nat) (ds : List Nat) :
    calculateUndelegations (fuel + 1) amount ds = none ↔
      ds = [] ∨ U128 ≤ ds.sum ∨ ds.sum < amount := by
  rw [undeleg_eq]
  split <;> simp [*]

/-- More fuel changes nothing: the loop has already exited after the first pass. -/
theorem C12_undeleg_terminates (fuel amount : Nat) (ds : List Nat) :
    calculateUndelegations (fuel + 1) amount ds = calculateUndelegations 1 amount ds := by
  rw [undeleg_eq, undeleg_eq 0]

/-- Exactly the requested amount is removed, never more from a validator than it holds, and a
    validator that gives something keeps at least the even share rounded down. -/
theorem C12_undeleg_conserves (fuel amount : Nat) (ds plan : List Nat)
    (h : calculateUndelegations (fuel + 1) amount ds = some plan) :
    plan.sum = amount ∧ plan.length = ds.length ∧
    ∀ j, nth plan j ≤ nth ds j ∧
      (0 < nth plan j → (ds.sum - amount) / ds.length ≤ nth ds j - nth plan j) := by
  rw [undeleg_eq] at h
  split at h
  · cases h
  · rename_i hc
    obtain ⟨h1, hc⟩ := not_or.mp hc
    obtain ⟨_, h3⟩ := not_or.mp hc
    injection h with h
    by_cases h0 : amount = 0
    · simp only [h0, if_true] at h
      subst h
      simp [h0, nth_replicate_zero]
    · simp only [h0, if_false] at h
      have hs := undelegPass_spec ((ds.sum - amount) / ds.length) ((ds.sum - amount) % ds.length) ds 0 amount
      have ht := undeleg_take_ge amount ds h1 (by omega)
      rw [h] at hs
      refine ⟨by omega, hs.2.2, fun j => ?_⟩
      clear hs ht
      have hj := undelegPass_le ((ds.sum - amount) / ds.length) ((ds.sum - amount) % ds.length) ds 0 amount j
      rw [h] at hj
      simp only [Nat.zero_add] at hj
      generalize (ds.sum - amount) / ds.length = cpv at hj ⊢
      constructor
      · omega
      · intro hpos; omega

/-! Non-vacuity: concrete inputs meeting the hypotheses (the unit-test vectors of the repo). -/
example : calculateDelegations 100 [0, 0, 0] = some (0, [34, 33, 33]) := by decide
example : calculateDelegations 7 [10, 2, 0] = some (0, [0, 4, 3]) := by decide
example : calculateUndelegations 1 10 [100, 10, 10] = some [10, 0, 0] := by decide
example : calculateUndelegations 1 121 [100, 10, 11] = some [100, 10, 11] := by decide

end Krp
