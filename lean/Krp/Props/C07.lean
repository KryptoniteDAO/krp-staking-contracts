/-
  C07 — Every unbonded token is recorded in exactly one batch claim of its sender.

  `claimsB h i` / `claimsS h i` = Σ over all users of their recorded bSei / stSei claims in batch i.
  Invariant `ClaimInv`: the open batch's totals equal the sums of its claims; every closed,
  unreleased batch's history amounts equal the sums of its claims (released: the sums only fall,
  by withdrawals); nothing is recorded for future batches; history exists only below the open id.
-/
import Krp.Props.C03
namespace Krp
open HubSt

structure ClaimInv (h : HubSt) : Prop where
  wf : h.WaitWF
  openB : h.claimsB h.batchId = h.reqB
  openS : h.claimsS h.batchId = h.reqS
  closed : ∀ i x, h.hist i = some x →
    (x.released = false → h.claimsB i = x.bAmt ∧ h.claimsS i = x.sAmt) ∧
    h.claimsB i ≤ x.bAmt ∧ h.claimsS i ≤ x.sAmt
  future : ∀ i, h.batchId < i → h.claimsB i = 0 ∧ h.claimsS i = 0
  histBound : ∀ i, h.hist i ≠ none → i < h.batchId

structure SameClaims (h h' : HubSt) : Prop where
  keys : h'.waitKeys = h.waitKeys
  waitB : h'.waitB = h.waitB
  waitS : h'.waitS = h.waitS
  hist : h'.hist = h.hist
  batchId : h'.batchId = h.batchId
  reqB : h'.reqB = h.reqB
  reqS : h'.reqS = h.reqS

theorem claims_of_same {h h' : HubSt} (wk : h'.waitKeys = h.waitKeys) (wb : h'.waitB = h.waitB)
    (ws : h'.waitS = h.waitS) :
    (h.WaitWF → h'.WaitWF) ∧ (∀ i, h'.claimsB i = h.claimsB i) ∧ (∀ i, h'.claimsS i = h.claimsS i) :=
  ⟨fun wf => ⟨by rw [wk]; exact wf.nodup, by rw [wk, wb]; exact wf.zeroB, by rw [wk, ws]; exact wf.zeroS⟩,
    fun i => by unfold claimsB keysOf; rw [wk, wb], fun i => by unfold claimsS keysOf; rw [wk, ws]⟩

theorem ClaimInv.of_same {h h' : HubSt} (s : SameClaims h h') (inv : ClaimInv h) : ClaimInv h' := by
  obtain ⟨wf, cb, cs⟩ := claims_of_same s.keys s.waitB s.waitS
  refine ⟨wf inv.wf, ?_, ?_, ?_, ?_, ?_⟩
  · rw [cb, s.batchId, s.reqB]; exact inv.openB
  · rw [cs, s.batchId, s.reqS]; exact inv.openS
  · intro i x hx; rw [s.hist] at hx; rw [cb, cs]; exact inv.closed i x hx
  · intro i hi; rw [s.batchId] at hi; rw [cb, cs]; exact inv.future i hi
  · intro i hi; rw [s.hist] at hi; rw [s.batchId]; exact inv.histBound i hi

theorem C07_init (sender now epoch unb fee thr rd upd : Nat) (h : HubSt)
    (hx : hubInit sender now epoch unb fee thr rd upd = .ok h) : ClaimInv h := by
  unfold hubInit at hx
  split at hx
  · cases hx
  · injection hx with hx; subst hx
    refine ⟨⟨by simp, fun _ _ _ => rfl, fun _ _ _ => rfl⟩, ?_, ?_, ?_, ?_, ?_⟩ <;>
      simp [claimsB, claimsS, keysOf]

theorem ClaimInv.record {st st' : HubSt} (inv : ClaimInv st) (user : Addr) (x y : Nat)
    (s : SameClaims { st.addWait user st.batchId x y with reqB := st.reqB + x, reqS := st.reqS + y } st') :
    ClaimInv st' := by
  obtain ⟨wf, cb, cs, _⟩ := addWait_claims st inv.wf user st.batchId x y
  obtain ⟨wf', cb', cs'⟩ := claims_of_same (h := st.addWait user st.batchId x y) s.keys s.waitB s.waitS
  have bid : st'.batchId = st.batchId := s.batchId
  have hh : st'.hist = st.hist := s.hist
  -- batches other than the open one keep their sums
  have other : ∀ i, i ≠ st.batchId → st'.claimsB i = st.claimsB i ∧ st'.claimsS i = st.claimsS i :=
    fun i hne => ⟨by rw [cb', cb, if_neg hne]; rfl, by rw [cs', cs, if_neg hne]; rfl⟩
  refine ⟨wf' wf, ?_, ?_, ?_, ?_, ?_⟩
  · rw [bid, cb', cb, if_pos rfl, inv.openB]; exact s.reqB.symm
  · rw [bid, cs', cs, if_pos rfl, inv.openS]; exact s.reqS.symm
  · intro i z hz
    rw [hh] at hz
    have hlt := inv.histBound i (by rw [hz]; nofun)
    rw [(other i (by omega)).1, (other i (by omega)).2]
    exact inv.closed i z hz
  · intro i hi
    rw [bid] at hi
    rw [(other i (by omega)).1, (other i (by omega)).2]
    exact inv.future i hi
  · intro i hi
    rw [hh] at hi
    rw [bid]
    exact inv.histBound i hi

/-- An accepted bSei Unbond credits the cw20 sender, and only that account, with a claim in the
    open batch equal to the amount less the peg fee, and adds the same amount to the batch total. -/
theorem C07_unbond_bsei_credits_sender_only (st : HubSt) (inv : ClaimInv st) (user : Addr)
    (S amount withFee : Nat) :
    let st' := st.afterUnbondB user S amount withFee
    ClaimInv st' ∧ st'.waitB user st.batchId = st.waitB user st.batchId + withFee ∧
    st'.reqB = st.reqB + withFee ∧ st'.reqS = st.reqS ∧
    ∀ u i, (u, i) ≠ (user, st.batchId) → st'.waitB u i = st.waitB u i ∧ st'.waitS u i = st.waitS u i := by
  intro st'
  have a := addWait_claims st inv.wf user st.batchId withFee 0
  exact ⟨inv.record user withFee 0 ⟨rfl, rfl, rfl, rfl, rfl, rfl, rfl⟩,
    a.2.2.2.2.1, rfl, rfl, a.2.2.2.1⟩

/-- The same for stSei (no fee). -/
theorem C07_unbond_stsei_credits_sender_only (st : HubSt) (inv : ClaimInv st) (user : Addr) (amount : Nat) :
    let st' := st.afterUnbondS user amount
    ClaimInv st' ∧ st'.waitS user st.batchId = st.waitS user st.batchId + amount ∧
    st'.reqS = st.reqS + amount ∧ st'.reqB = st.reqB ∧
    ∀ u i, (u, i) ≠ (user, st.batchId) → st'.waitB u i = st.waitB u i ∧ st'.waitS u i = st.waitS u i := by
  intro st'
  have a := addWait_claims st inv.wf user st.batchId 0 amount
  exact ⟨inv.record user 0 amount ⟨rfl, rfl, rfl, rfl, rfl, rfl, rfl⟩,
    a.2.2.2.2.2, rfl, rfl, a.2.2.2.1⟩

/-- **The claim recorded is the amount sent less the peg fee — exactly.** A successful bSei unbond
    of `amount` by `user`, whether or not it closes the batch: the user's claim in the batch that was
    open grows by `withFee`, where `amount − withFee` is the peg fee — at most ⌊amount × fee⌋ (the
    product rounded *down*), zero when the rate is at or above the threshold — and nobody else's
    claim, and no claim of the user in another batch, changes. -/
theorem C07_unbond_bsei_claim_is_amount_less_fee (h h' : HubSt) (e : HubEnv) (amount : Nat) (user : Addr)
    (ms : List Msg) (inv : ∀ st, h.actualState e = .ok st → ClaimInv st)
    (hx : h.unbondB e amount user = .ok (h', ms)) :
    ∃ st withFee, h.actualState e = .ok st ∧
      h'.waitB user st.batchId = st.waitB user st.batchId + withFee ∧
      withFee ≤ amount ∧ amount - withFee ≤ mulDec amount st.fee ∧ (st.thr ≤ st.bRate → withFee = amount) ∧
      (∀ u i, (u, i) ≠ (user, st.batchId) → h'.waitB u i = st.waitB u i ∧ h'.waitS u i = st.waitS u i) ∧
      h'.waitS user st.batchId = st.waitS user st.batchId := by
  obtain ⟨st, supply, withFee, tok, hst, _, hfee, _, _, _, hcase⟩ := unbondB_spec h h' e amount user ms hx
  have f := pegFeeOnBurn_spec st supply amount withFee hfee
  obtain ⟨_, _, _, _, _, own⟩ := addWait_claims st (inv st hst).wf user st.batchId withFee 0
  have cr := C07_unbond_bsei_credits_sender_only st (inv st hst) user supply amount withFee
  -- the wait lists of `h'` are those after the request was recorded
  have w : h'.waitB = (st.afterUnbondB user supply amount withFee).waitB ∧
      h'.waitS = (st.afterUnbondB user supply amount withFee).waitS := by
    rcases hcase with ⟨_, um, hp, _⟩ | ⟨_, rfl, _⟩
    · have sp := processUndelegations_spec _ h' e um hp
      exact ⟨sp.2.2.2.2.2.2.2.2.2.2.2.2.1, sp.2.2.2.2.2.2.2.2.2.2.2.2.2.1⟩
    · exact ⟨rfl, rfl⟩
  rw [w.1, w.2]
  exact ⟨st, withFee, hst, cr.2.1, f.1, f.2.1, f.2.2.1, cr.2.2.2.2, own⟩

/-- Closing a batch: the history entry stores exactly the batch totals (= the sums of all users'
    claims), a new empty batch opens with the next id. -/
theorem C07_undelegation_keeps_claims (h h' : HubSt) (e : HubEnv) (ms : List Msg) (inv : ClaimInv h)
    (hx : h.processUndelegations e = .ok (h', ms)) : ClaimInv h' := by
  obtain ⟨_, _, _, _, _, _, _, rb, rs, bid, _, hh, wb, ws, _, _, _⟩ := processUndelegations_spec h h' e ms hx
  have wk : h'.waitKeys = h.waitKeys := by
    obtain ⟨_, _, _, rfl⟩ := processUndelegations_shape hx; rfl
  obtain ⟨wf, cb, cs⟩ := claims_of_same wk wb ws
  refine ⟨wf inv.wf, ?_, ?_, ?_, ?_, ?_⟩
  · rw [cb, bid, rb]; exact (inv.future _ (by omega)).1
  · rw [cs, bid, rs]; exact (inv.future _ (by omega)).2
  · intro i x hx'
    rw [hh] at hx'
    rw [cb, cs]
    by_cases hi : i = h.batchId
    · subst hi
      simp only [upd_same] at hx'
      injection hx' with hx'; subst hx'
      exact ⟨fun _ => ⟨inv.openB, inv.openS⟩, by rw [inv.openB]; exact Nat.le_refl _, by rw [inv.openS]; exact Nat.le_refl _⟩
    · rw [upd_other _ _ _ _ hi] at hx'
      exact inv.closed i x hx'
  · intro i hi
    rw [cb, cs]; exact inv.future i (by omega)
  · intro i hi
    rw [hh] at hi
    by_cases hib : i = h.batchId
    · omega
    · rw [upd_other _ _ _ _ hib] at hi
      have := inv.histBound i hi; omega

/-- Releasing matured batches rewrites only their withdraw rates and the released flag: no claim,
    amount or total changes. -/
theorem C07_release_keeps_claims (h h' : HubSt) (cutoff bal : Nat) (inv : ClaimInv h)
    (hx : h.processWithdrawRate cutoff bal = .ok h') : ClaimInv h' := by
  obtain ⟨wb, ws, wk, _, bid, rb, rs, _, _, _, _, hh⟩ := processWithdrawRate_spec h h' cutoff bal hx
  obtain ⟨wf, cb, cs⟩ := claims_of_same wk wb ws
  refine ⟨wf inv.wf, by rw [cb, bid, rb]; exact inv.openB, by rw [cs, bid, rs]; exact inv.openS, ?_,
    by intro i hi; rw [bid] at hi; rw [cb, cs]; exact inv.future i hi, ?_⟩
  · intro i x' hx'
    rw [cb, cs]
    cases hxi : h.hist i with
    | none => rw [(hh i).1 hxi] at hx'; cases hx'
    | some x =>
      obtain ⟨y, hy, _, hb, hs, _, _, _, _, hkeep⟩ := (hh i).2 x hxi
      rw [hy] at hx'; injection hx' with hx'; subst hx'
      have c := inv.closed i x hxi
      refine ⟨fun hr => ?_, by rw [hb]; exact c.2.1, by rw [hs]; exact c.2.2⟩
      have e := hkeep hr
      subst e
      exact c.1 hr
  · intro i hi
    rw [bid]
    cases hxi : h.hist i with
    | none => exact absurd ((hh i).1 hxi) hi
    | some x => exact inv.histBound i (by rw [hxi]; nofun)

/-- Deleting a claimant's entries on released batches (a withdrawal) lowers only those batches' sums. -/
theorem C07_withdraw_removes_only_own_released (h : HubSt) (inv : ClaimInv h) (u : Addr) (ids : List Nat)
    (hrel : ∀ i ∈ ids, ∃ x, h.hist i = some x ∧ x.released = true) :
    ClaimInv (ids.foldl (fun hh i => hh.delWait u i) h) ∧
    (ids.foldl (fun hh i => hh.delWait u i) h).hist = h.hist ∧
    ∀ u' i, u' ≠ u → (ids.foldl (fun hh i => hh.delWait u i) h).waitB u' i = h.waitB u' i ∧
                     (ids.foldl (fun hh i => hh.delWait u i) h).waitS u' i = h.waitS u' i := by
  induction ids generalizing h with
  | nil => exact ⟨inv, rfl, fun _ _ _ => ⟨rfl, rfl⟩⟩
  | cons b bs ih =>
    simp only [List.foldl_cons]
    obtain ⟨x, hxb, hxr⟩ := hrel b (by simp)
    obtain ⟨wf, cb, cs, o⟩ := delWait_claims h inv.wf u b
    have hb : b < h.batchId := inv.histBound b (by rw [hxb]; nofun)
    -- batches other than `b` keep their sums
    have other : ∀ i, i ≠ b → (h.delWait u b).claimsB i = h.claimsB i ∧ (h.delWait u b).claimsS i = h.claimsS i :=
      fun i hne => ⟨by have := cb i; rwa [if_neg hne] at this, by have := cs i; rwa [if_neg hne] at this⟩
    have inv1 : ClaimInv (h.delWait u b) := by
      refine ⟨wf, ?_, ?_, ?_, ?_, inv.histBound⟩
      · exact (other h.batchId (by omega)).1.trans inv.openB
      · exact (other h.batchId (by omega)).2.trans inv.openS
      · intro i y hy
        have c := inv.closed i y hy
        by_cases hib : i = b
        · subst hib
          cases hxb.symm.trans hy
          have e1 := cb i
          have e2 := cs i
          rw [if_pos rfl] at e1 e2
          exact ⟨fun hr => absurd (hr.symm.trans hxr) nofun, by omega, by omega⟩
        · rw [(other i hib).1, (other i hib).2]; exact c
      · intro i hi
        have hi' : h.batchId < i := hi
        rw [(other i (by omega)).1, (other i (by omega)).2]; exact inv.future i hi'
    have r := ih (h.delWait u b) inv1 (fun i hi => hrel i (by simp [hi]))
    refine ⟨r.1, r.2.1, fun u' i hne => ?_⟩
    have o' := o u' i (fun e => hne (Prod.mk.inj e).1)
    exact ⟨(r.2.2 u' i hne).1.trans o'.1, (r.2.2 u' i hne).2.trans o'.2⟩

/-- WithdrawUnbonded as a whole keeps the claim bookkeeping consistent and touches nobody else's claims. -/
theorem C07_withdraw_step (h h' : HubSt) (e : HubEnv) (sender : Addr) (ms : List Msg) (inv : ClaimInv h)
    (hx : h.withdraw e sender = .ok (h', ms)) :
    ClaimInv h' ∧ ∀ u i, u ≠ sender → h'.waitB u i = h.waitB u i ∧ h'.waitS u i = h.waitS u i := by
  obtain ⟨_, h1, hp, _, _, rfl, _⟩ := withdraw_spec h h' e sender ms hx
  have inv1 := C07_release_keeps_claims h h1 _ _ inv hp
  have sp := processWithdrawRate_spec h h1 _ _ hp
  have r := C07_withdraw_removes_only_own_released h1 inv1 sender _ fun _ hi => h1.finished_released sender hi
  refine ⟨?_, fun u i hne => ?_⟩
  · apply ClaimInv.of_same _ r.1
    exact ⟨rfl, rfl, rfl, rfl, rfl, rfl, rfl⟩
  have := r.2.2 u i hne
  exact ⟨this.1.trans (congrFun (congrFun sp.1 u) i), this.2.trans (congrFun (congrFun sp.2.1 u) i)⟩

/-! ### Every hub message, every reachable state

  `KeepsClaims h h'`: the claim bookkeeping (wait lists, history, open batch) and the legacy list are
  literally unchanged.  `Quiet h h'`: nor are `prev_hub_balance`, `last_processed_batch` and
  `last_unbonded_time`.  An accepted hub message is a WithdrawUnbonded, an Unbond (recorded in the
  open batch, optionally followed by the undelegation that closes it), or quiet. -/

structure KeepsClaims (h h' : HubSt) : Prop where
  same : SameClaims h h'
  legacy : h'.legacy = h.legacy

theorem KeepsClaims.refl (h : HubSt) : KeepsClaims h h := ⟨⟨rfl, rfl, rfl, rfl, rfl, rfl, rfl⟩, rfl⟩

theorem KeepsClaims.trans {a b c : HubSt} (x : KeepsClaims a b) (y : KeepsClaims b c) : KeepsClaims a c :=
  ⟨⟨y.same.keys.trans x.same.keys, y.same.waitB.trans x.same.waitB, y.same.waitS.trans x.same.waitS,
    y.same.hist.trans x.same.hist, y.same.batchId.trans x.same.batchId, y.same.reqB.trans x.same.reqB,
    y.same.reqS.trans x.same.reqS⟩, y.legacy.trans x.legacy⟩

structure Quiet (h h' : HubSt) : Prop where
  keeps : KeepsClaims h h'
  prev : h'.prevHubBalance = h.prevHubBalance
  lastProc : h'.lastProcessedBatch = h.lastProcessedBatch
  lastUnb : h'.lastUnbondedTime = h.lastUnbondedTime

theorem Quiet.refl (h : HubSt) : Quiet h h := ⟨KeepsClaims.refl h, rfl, rfl, rfl⟩

/-- what recording an unbond request leaves alone -/
structure UnbShape (st h0 : HubSt) : Prop where
  hist : h0.hist = st.hist
  batchId : h0.batchId = st.batchId
  lastProc : h0.lastProcessedBatch = st.lastProcessedBatch
  lastUnb : h0.lastUnbondedTime = st.lastUnbondedTime
  prev : h0.prevHubBalance = st.prevHubBalance
  legacy : h0.legacy = st.legacy

inductive HubStepKind (h h' : HubSt) (e : HubEnv) (sender : Addr) (m : HubMsg) (ms : List Msg) : Prop
  | quiet (q : Quiet h h') (hne : m ≠ .withdrawUnbonded)
  | withdraw (hm : m = .withdrawUnbonded) (hp : h.isPaused = false) (hx : h.withdraw e sender = .ok (h', ms))
  | unbond (st h0 : HubSt) (hne : m ≠ .withdrawUnbonded) (hst : h.actualState e = .ok st) (sh : UnbShape st h0)
      (inv0 : ClaimInv h → ClaimInv h0)
      (hcase : (e.now - st.lastUnbondedTime > st.epoch ∧ ∃ um last,
                  h0.processUndelegations e = .ok (h', um) ∧ ms = um ++ [last] ∧ undelegatedBy [last] = 0) ∨
               (h' = h0 ∧ undelegatedBy ms = 0))

theorem afterUnbond_shape (st : HubSt) (u : Addr) (supply a withFee : Nat) :
    UnbShape st (st.afterUnbondB u supply a withFee) ∧ UnbShape st (st.afterUnbondS u a) := by
  unfold afterUnbondB afterUnbondS addWait
  exact ⟨⟨rfl, rfl, rfl, rfl, rfl, rfl⟩, ⟨rfl, rfl, rfl, rfl, rfl, rfl⟩⟩

theorem quiet_pools {h st : HubSt} {e : HubEnv} (hst : h.actualState e = .ok st) (bB sB bR sR : Nat) :
    Quiet h { st with bBond := bB, sBond := sB, bRate := bR, sRate := sR } := by
  obtain ⟨_, _, _, _, rfl⟩ := actualState_shape hst
  exact ⟨⟨⟨rfl, rfl, rfl, rfl, rfl, rfl, rfl⟩, rfl⟩, rfl, rfl, rfl⟩

theorem actualState_keeps (h st : HubSt) (e : HubEnv) (hx : h.actualState e = .ok st) : KeepsClaims h st :=
  (quiet_pools hx _ _ _ _).keeps

theorem hubExec_classify (h h' : HubSt) (e : HubEnv) (sender : Addr) (funds : List (Denom × Nat))
    (m : HubMsg) (ms : List Msg) (hl : h.legacy = [])
    (hx : hubExec h e sender funds m = .ok (h', ms)) : HubStepKind h h' e sender m ms := by
  cases hubExec_route hx with
  | withdrawUnbonded hp hw => exact .withdraw rfl hp hw
  | migrate limit _ hh _ =>
    have : h.migrate limit = h := by simp [migrate, hl]
    rw [hh, this]; exact .quiet (Quiet.refl h) nofun
  | unbondB user amt s _ _ _ hr =>
    obtain ⟨st, supply, wf, tok, hst, _, _, _, _, _, hcase⟩ := unbondB_spec _ _ _ _ _ _ hr
    refine .unbond st (st.afterUnbondB user supply amt wf) nofun hst (afterUnbond_shape st user supply amt wf).1
      (fun inv => (C07_unbond_bsei_credits_sender_only st
        (ClaimInv.of_same (actualState_keeps h st e hst).same inv) user supply amt wf).1) ?_
    rcases hcase with ⟨hg, um, hp, hms⟩ | ⟨_, hh, hms⟩
    · exact Or.inl ⟨hg, um, _, hp, hms, rfl⟩
    · exact Or.inr ⟨hh, by rw [hms]; rfl⟩
  | unbondS user amt b _ _ _ _ hr =>
    obtain ⟨st, tok, hst, _, _, hcase⟩ := unbondS_spec _ _ _ _ _ _ hr
    refine .unbond st (st.afterUnbondS user amt) nofun hst (afterUnbond_shape st user 0 amt 0).2
      (fun inv => (C07_unbond_stsei_credits_sender_only st
        (ClaimInv.of_same (actualState_keeps h st e hst).same inv) user amt).1) ?_
    rcases hcase with ⟨hg, um, hp, hms⟩ | ⟨_, hh, hms⟩
    · exact Or.inl ⟨hg, um, _, hp, hms, rfl⟩
    · exact Or.inr ⟨hh, by rw [hms]; rfl⟩
  | convertBS user amt s _ _ _ hr =>
    obtain ⟨st, _, _, _, _, _, hst, _, _, _, _, _, _, _, _, rfl, _⟩ := convertBS_spec _ _ _ _ _ _ hr
    exact .quiet (quiet_pools hst _ _ _ _) nofun
  | convertSB user amt b _ _ _ _ hr =>
    obtain ⟨st, _, _, _, _, _, hst, _, _, _, _, _, _, _, _, rfl, _⟩ := convertSB_spec _ _ _ _ _ _ hr
    exact .quiet (quiet_pools hst _ _ _ _) nofun
  | bond _ hr =>
    obtain ⟨_, st, _, _, _, _, hst, _, _, _, _, rfl, _⟩ := bondB_spec _ _ _ _ _ _ hr
    exact .quiet (quiet_pools hst _ _ _ _) nofun
  | bondForStSei _ hr =>
    obtain ⟨_, st, _, _, _, hst, _, _, _, rfl, _⟩ := bondS_spec _ _ _ _ _ _ hr
    exact .quiet (quiet_pools hst _ _ _ _) nofun
  | bondRewards _ hr =>
    obtain ⟨_, st, _, _, hst, _, rfl⟩ := bondR_spec _ _ _ _ _ _ hr
    exact .quiet (quiet_pools hst _ _ _ _) nofun
  | checkSlashing _ hst _ => exact .quiet (quiet_pools hst _ _ _ _) nofun
  | params ep ub fee thr paused rd hr _ =>
    obtain ⟨_, _, _, rfl⟩ := updateParams_spec hr
    exact .quiet ⟨⟨⟨rfl, rfl, rfl, rfl, rfl, rfl, rfl⟩, rfl⟩, rfl, rfl, rfl⟩ nofun
  | updateGlobalIndex _ hr =>
    obtain ⟨_, _, _, _, rfl⟩ := updateGlobal_spec hr
    exact .quiet ⟨⟨⟨rfl, rfl, rfl, rfl, rfl, rfl, rfl⟩, rfl⟩, rfl, rfl, rfl⟩ nofun
  | updateConfig d r b s a rw u _ hr =>
    obtain ⟨_, _, _, rfl, _⟩ := updateConfig_spec hr
    exact .quiet ⟨⟨⟨rfl, rfl, rfl, rfl, rfl, rfl, rfl⟩, rfl⟩, rfl, rfl, rfl⟩ nofun
  | setOwner _ _ _ hh _ | acceptOwnership _ _ hh _ =>
    subst hh
    exact .quiet ⟨⟨⟨rfl, rfl, rfl, rfl, rfl, rfl, rfl⟩, rfl⟩, rfl, rfl, rfl⟩ nofun
  | swapHook _ _ hh _ | claimAirdrop _ _ hh _ | redelegateProxy _ _ _ _ hh _ =>
    subst hh
    exact .quiet (Quiet.refl _) nofun

/-- **Every hub message.** Whatever message the hub accepts, from whomever, in a state whose claim
    bookkeeping is consistent (and whose pre-migration wait list is empty), the bookkeeping is
    consistent afterwards. -/
theorem C07_hub_step (h h' : HubSt) (e : HubEnv) (sender : Addr) (funds : List (Denom × Nat))
    (m : HubMsg) (ms : List Msg) (inv : ClaimInv h) (hl : h.legacy = [])
    (hx : hubExec h e sender funds m = .ok (h', ms)) : ClaimInv h' ∧ h'.legacy = [] := by
  cases hubExec_classify h h' e sender funds m ms hl hx with
  | quiet q _ => exact ⟨ClaimInv.of_same q.keeps.same inv, q.keeps.legacy.trans hl⟩
  | withdraw _ _ hw =>
    refine ⟨(C07_withdraw_step h h' e sender ms inv hw).1, ?_⟩
    obtain ⟨_, h1, hp, _, _, rfl, _⟩ := withdraw_spec h h' e sender ms hw
    have l1 : h1.legacy = h.legacy := (processWithdrawRate_spec h h1 _ _ hp).2.2.2.2.2.2.2.1
    exact (foldl_keeps (·.legacy) (fun hh i => hh.delWait sender i) (fun _ _ => rfl) _ h1).trans (l1.trans hl)
  | unbond st h0 _ hst sh inv0 hcase =>
    have l0 : h0.legacy = [] := sh.legacy.trans ((actualState_keeps h st e hst).legacy.trans hl)
    rcases hcase with ⟨_, um, _, hp, _, _⟩ | ⟨rfl, _⟩
    · obtain ⟨_, _, _, e'⟩ := processUndelegations_shape hp
      exact ⟨C07_undelegation_keeps_claims _ _ _ _ (inv0 inv) hp, by rw [e']; exact l0⟩
    · exact ⟨inv0 inv, l0⟩

/-- **Every reachable state.** From any state with consistent claim bookkeeping (the instantiated
    hub: `C07_init`), after any history of any length in which no pre-migration entries are
    injected, the bookkeeping is consistent. -/
theorem C07_reachable (s : Sys) (l : List Step) (inv : ClaimInv s.hub) (hl : s.hub.legacy = [])
    (hnl : ∀ u b a, Step.env (.seedLegacy u b a) ∉ l) :
    ClaimInv (s.steps l).hub ∧ (s.steps l).hub.legacy = [] :=
  hub_steps_inv (fun h => ClaimInv h ∧ h.legacy = [])
    (fun _ _ _ _ _ _ _ hp hx => C07_hub_step _ _ _ _ _ _ _ hp.1 hp.2 hx) l s hnl ⟨inv, hl⟩

/-! Non-vacuity of `C07_reachable`: the genesis state. -/
example : ClaimInv genesisSys.hub ∧ genesisSys.hub.legacy = [] :=
  ⟨ClaimInv.of_same (h := (hubInit 1 0 30 100 0 D 1 3).toOption.getD default) ⟨rfl, rfl, rfl, rfl, rfl, rfl, rfl⟩
    (C07_init 1 0 30 100 0 D 1 3 _ rfl), rfl⟩

/-- the stored entries above `start_from`, before the page is cut: ids ascend strictly -/
theorem history_sorted (h : HubSt) (start : Option Nat) :
    (((List.range (h.batchId + 1)).filter (aboveStart start)).filterMap
      (fun i => (h.hist i).map (fun x => (i, x)))).Pairwise (fun p q => p.1 < q.1) := by
  rw [List.pairwise_filterMap]
  apply List.Pairwise.imp _ (List.Pairwise.filter _ (List.pairwise_lt_range (n := h.batchId + 1)))
  intro a b hab p hp q hq
  obtain ⟨_, _, rfl⟩ := Option.map_eq_some_iff.mp hp
  obtain ⟨_, _, rfl⟩ := Option.map_eq_some_iff.mp hq
  exact hab

theorem allHistory_sorted (h : HubSt) (start limit : Option Nat) :
    (h.allHistory start limit).Pairwise (fun p q => p.1 < q.1) :=
  List.Pairwise.sublist (List.take_sublist _ _) (history_sorted h start)

/-- **AllHistory reports faithfully (soundness).** Every entry on a page is a stored history entry,
    reported under its own batch id with exactly the stored fields, and lies above `start_from`. -/
theorem C07_allHistory_faithful (h : HubSt) (start limit : Option Nat) (i : Nat) (x : History)
    (hm : (i, x) ∈ h.allHistory start limit) :
    h.hist i = some x ∧ i ≤ h.batchId ∧ (∀ s, start = some s → s < i) := by
  unfold HubSt.allHistory at hm
  have hm' := List.mem_of_mem_take hm
  rw [List.mem_filterMap] at hm'
  obtain ⟨j, hj, hjx⟩ := hm'
  rw [List.mem_filter, List.mem_range] at hj
  cases hh : h.hist j with
  | none => rw [hh] at hjx; cases hjx
  | some y =>
    rw [hh] at hjx
    simp only [Option.map_some, Option.some.injEq, Prod.mk.injEq] at hjx
    obtain ⟨rfl, rfl⟩ := hjx
    refine ⟨hh, by omega, ?_⟩
    intro s hs; subst hs
    simpa [aboveStart] using hj.2

theorem take_sorted_miss {α : Type} (key : α → Nat) (l : List α) (n : Nat)
    (hs : l.Pairwise (fun p q => key p < key q)) (a : α) (ha : a ∈ l) (hn : a ∉ l.take n) :
    (l.take n).length = n ∧ ∀ p ∈ l.take n, key p < key a := by
  rw [← List.take_append_drop n l] at ha hs
  have hd : a ∈ l.drop n := (List.mem_append.mp ha).resolve_left hn
  refine ⟨?_, fun p hp => (List.pairwise_append.mp hs).2.2 p hp a hd⟩
  have := List.length_pos_of_mem hd
  rw [List.length_drop] at this
  rw [List.length_take]
  omega

/-- **AllHistory reports faithfully (completeness).** A stored entry above `start_from` is on the
    page, unless the page is full (`min (limit or 10) 100` entries) and ends before it — so a
    reader who pages with `start_from :=` the last id seen, from any starting point that is not
    above an entry, sees every stored entry exactly once and in order. -/
theorem C07_allHistory_complete (h : HubSt) (start limit : Option Nat) (i : Nat) (x : History)
    (hx : h.hist i = some x) (hi : i ≤ h.batchId) (hs : ∀ s, start = some s → s < i) :
    (i, x) ∈ h.allHistory start limit ∨
    ((h.allHistory start limit).length = min (limit.getD 10) 100 ∧
      ∀ p ∈ h.allHistory start limit, p.1 < i) := by
  by_cases hm : (i, x) ∈ h.allHistory start limit
  · exact Or.inl hm
  · right
    have hin : (i, x) ∈ ((List.range (h.batchId + 1)).filter (aboveStart start)).filterMap (fun i => (h.hist i).map (fun x => (i, x))) := by
      rw [List.mem_filterMap]
      refine ⟨i, ?_, by rw [hx]; rfl⟩
      rw [List.mem_filter, List.mem_range]
      refine ⟨by omega, ?_⟩
      cases start with
      | none => rfl
      | some s => simpa [aboveStart] using hs s rfl
    unfold HubSt.allHistory at hm ⊢
    exact take_sorted_miss (fun p => p.1) _ _ (history_sorted h start) (i, x) hin hm

/-- the first page from the start (`start_from` omitted or 0 — batch ids begin at 1) begins with the
    oldest stored entry: nothing is skipped at the front -/
theorem C07_allHistory_from_zero (h : HubSt) (limit : Option Nat) (hz : h.hist 0 = none) :
    h.allHistory (some 0) limit = h.allHistory none limit := by
  unfold HubSt.allHistory
  -- the two filters differ at id 0 only, which has no entry
  rw [List.range_succ_eq_map, List.filter_cons_of_neg (by decide), List.filter_cons_of_pos rfl,
    List.filterMap_cons_none (by rw [hz]; rfl)]
  congr 2
  refine List.filter_congr fun a ha => ?_
  obtain ⟨n, _, rfl⟩ := List.mem_map.mp ha
  exact decide_eq_true (Nat.succ_pos n)

end Krp
