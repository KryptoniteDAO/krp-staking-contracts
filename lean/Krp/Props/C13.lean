/-
  C13 — Removing a validator moves its whole stake to the remaining ones.
-/
import Krp.Lemmas.Steer
namespace Krp
open HubSt

/-- **The list the registry answers is the registry.** `GetValidatorsForDelegation` — what the hub
    distributes every bond over, and what a removal redelegates to — lists exactly the validators
    the registry stores, once each entry: a validator is on the list iff it is registered (whatever
    delegations the hub holds elsewhere, e.g. on a validator removed while its redelegation was
    blocked), and the amount shown for it is the hub's delegation to it. -/
theorem C13_list_query_lists_exactly_registered (s : Sys) (l : List (Addr × Nat))
    (hq : s.validatorsOf regA = .ok l) :
    (∀ v, v ∈ l.map (·.1) ↔ v ∈ s.reg.vals) ∧ l.length = s.reg.vals.length ∧
    (∀ y ∈ l, y.2 = (((s.delegationsOf s.reg.hub).find? (fun d => d.1 = y.1)).map (·.2)).getD 0) := by
  simp only [Sys.validatorsOf, if_true] at hq
  cases hq
  refine ⟨mem_sorted_validators s, ?_, fun y hy => ?_⟩
  · rw [(perm_sortAscAmt _).length_eq]; simp [Sys.regValidatorsRaw]
  · rw [(perm_sortAscAmt _).mem_iff] at hy
    simp only [Sys.regValidatorsRaw, List.mem_map] at hy
    obtain ⟨w, _, rfl⟩ := hy
    rfl

private theorem plan_sum (vs : List (Addr × Nat)) (p : List Nat) (hl : p.length = vs.length) :
    (((vs.zip p).filterMap (fun x => if x.2 = 0 then none else some (x.1.1, x.2))).map (·.2)).sum = p.sum := by
  induction vs generalizing p with
  | nil => cases p <;> simp_all
  | cons v vs ih =>
    cases p with
    | nil => simp at hl
    | cons q qs =>
      have := ih qs (by simpa using hl)
      simp only [List.zip_cons_cons, List.filterMap_cons, List.sum_cons]
      by_cases hq : q = 0
      · simp only [hq, if_true, this]; omega
      · simp only [hq, if_false, List.map_cons, List.sum_cons, this]

/-- **A follow-up Redelegations** (public; for stake a removal had to leave behind): refused for a
    registered validator; otherwise the registry state is untouched and — when the hub has a
    delegation there that the chain allows to move — the registry asks the hub to redelegate exactly
    the whole delegation *first* and to update the index *second*, the plan going in positive
    amounts to registered validators and lifting none of them above the even share (rounded up) of
    what the registered validators hold plus the stake moved (C12). -/
theorem C13_redelegations (s : Sys) (sender v : Addr) (r' : RegSt) (ms : List Msg)
    (hx : s.regExec sender (.redelegations v) = .ok (r', ms)) :
    s.reg.vals.contains v = false ∧ r' = s.reg ∧
    (ms = [] ∨ ∃ plan, ms = [Msg.wasm regA s.reg.hub (.hub (.redelegateProxy v plan)) [],
                              Msg.wasm regA s.reg.hub (.hub .updateGlobalIndex) []] ∧
        (plan.map (·.2)).sum = s.chain.deleg v ∧ s.reg.hub = hubA ∧ s.chain.delegSet v = true ∧
        ∀ t ∈ plan, t.1 ∈ s.reg.vals ∧ 0 < t.2 ∧
          ∃ held, (t.1, held) ∈ s.regValidatorsRaw ∧
            held + t.2 ≤ ((s.regValidatorsRaw.map (·.2)).sum + s.chain.deleg v + s.reg.vals.length - 1) / s.reg.vals.length) := by
  obtain ⟨hc, rfl, ⟨rfl, _⟩ | ⟨hh, hs, p, hp, rfl⟩⟩ := regExec_redelegations hx
  · exact ⟨hc, rfl, Or.inl rfl⟩
  · have hcv := C12_deleg_conserves _ _ p.1 p.2 hp
    refine ⟨hc, rfl, Or.inr ⟨_, rfl, ?_, hh, hs, fun t ht => ?_⟩⟩
    · rw [plan_sum _ _ (by simpa using hcv.2.2), hcv.2.1]
    · obtain ⟨hpos, j, held, hj, hy, hy2⟩ := plan_mem _ _ t ht
      have srt := perm_sortAscAmt s.regValidatorsRaw
      refine ⟨(mem_sorted_validators s t.1).mp (List.mem_map.mpr ⟨_, hy, rfl⟩), hpos, held, srt.mem_iff.mp hy, ?_⟩
      have bal := (C12_deleg_balanced _ _ p.1 p.2 hp j).2 (by rw [hj]; exact hpos)
      rw [hj, hy2, List.length_map, srt.length_eq, (srt.map (·.2)).sum_nat] at bal
      simpa [Sys.regValidatorsRaw] using bal

/-- A successful RemoveValidator: only the owner; the address leaves the registry; the registry
    never becomes empty; and — when the hub has a delegation there that the chain allows to move —
    the registry asks the hub to redelegate exactly the whole delegation, split over validators that
    are still registered, in positive amounts, followed by an index update. -/
theorem C13_remove_validator (s : Sys) (sender v : Addr) (r' : RegSt) (ms : List Msg)
    (hx : s.regExec sender (.remove v) = .ok (r', ms)) :
    sender = s.reg.owner ∧ r'.vals = s.reg.vals.filter (· ≠ v) ∧ v ∉ r'.vals ∧ r'.vals ≠ [] ∧
    (ms = [] ∨ ∃ plan, ms = [Msg.wasm regA s.reg.hub (.hub (.redelegateProxy v plan)) [],
                              Msg.wasm regA s.reg.hub (.hub .updateGlobalIndex) []] ∧
        (plan.map (·.2)).sum = s.chain.deleg v ∧ s.reg.hub = hubA ∧ s.chain.delegSet v = true ∧
        ∀ t ∈ plan, t.1 ∈ r'.vals ∧ 0 < t.2) := by
  obtain ⟨hs, rfl, hne, hx'⟩ := regExec_remove hx
  obtain ⟨_, _, hplan⟩ := C13_redelegations _ sender v _ ms hx'
  refine ⟨hs, rfl, by simp, hne, ?_⟩
  rcases hplan with h | ⟨plan, he, hsum, hh, hds, ht⟩
  · exact Or.inl h
  · exact Or.inr ⟨plan, he, hsum, hh, hds, fun t h => ⟨(ht t h).1, (ht t h).2.1⟩⟩

/-- ... and the plan of a RemoveValidator is balanced in the same sense: no remaining validator is
    lifted above the even share (rounded up) of what the remaining validators hold plus the stake
    moved. -/
theorem C13_remove_plan_balanced (s : Sys) (sender v : Addr) (r' : RegSt) (plan : List (Addr × Nat))
    (hx : s.regExec sender (.remove v) = .ok (r', [Msg.wasm regA s.reg.hub (.hub (.redelegateProxy v plan)) [],
                              Msg.wasm regA s.reg.hub (.hub .updateGlobalIndex) []])) :
    ∀ t ∈ plan, ∃ held, (t.1, held) ∈ ({ s with reg := r' } : Sys).regValidatorsRaw ∧
      held + t.2 ≤ ((({ s with reg := r' } : Sys).regValidatorsRaw.map (·.2)).sum + s.chain.deleg v + r'.vals.length - 1) / r'.vals.length := by
  obtain ⟨_, rfl, _, hx'⟩ := regExec_remove hx
  obtain ⟨_, _, h | ⟨plan', he, _, _, _, ht⟩⟩ := C13_redelegations _ sender v _ _ hx'
  · cases h
  · cases he
    exact fun t h => (ht t h).2.2

/-- The hub's proxy accepts only the registry and forwards the plan one-to-one as Redelegate
    messages from the removed validator. -/
theorem C13_hub_proxy_forwards (h h' : HubSt) (e : HubEnv) (sender src : Addr) (funds : List (Denom × Nat))
    (plan : List (Addr × Nat)) (ms : List Msg)
    (hx : hubExec h e sender funds (.redelegateProxy src plan) = .ok (h', ms)) :
    h.registry = some sender ∧ h' = h ∧ ms = plan.map (fun p => Msg.redelegate e.self src p.1 p.2) := by
  cases hubExec_route hx with
  | redelegateProxy _ _ _ hr hh hm => exact ⟨hr, hh, hm⟩

/-- One Redelegate moves exactly its amount from the source to the destination validator and
    nothing else: the hub's total delegated stake is unchanged. -/
theorem C13_redelegate_moves_exactly (s s' : Sys) (src dst : Addr) (amt : Nat) (ms : List Msg)
    (hx : s.handle (.redelegate hubA src dst amt) = .ok (s', ms)) :
    ms = [] ∧ src ≠ dst ∧ amt ≤ s.chain.deleg src ∧
    s'.chain.deleg src = s.chain.deleg src - amt ∧ s'.chain.deleg dst = s.chain.deleg dst + amt ∧
    (∀ v, v ≠ src → v ≠ dst → s'.chain.deleg v = s.chain.deleg v) ∧
    s'.chain.bank = s.chain.bank ∧ s'.hub = s.hub := by
  obtain ⟨_, _, _, hsd, _, hle, rfl, rfl⟩ := handle_redelegate hx
  refine ⟨rfl, hsd, hle, ?_, ?_, fun w h1 h2 => ?_, rfl, rfl⟩
  · show upd (upd _ src _) dst _ src = _
    rw [upd_other _ _ _ _ hsd, upd_same]
  · show upd (upd _ src _) dst _ dst = _
    rw [upd_same, upd_other _ _ _ _ (Ne.symm hsd)]
  · show upd (upd _ src _) dst _ w = _
    rw [upd_other _ _ _ _ h2, upd_other _ _ _ _ h1]

/-- hence a plan whose amounts sum to the whole delegation leaves nothing on the removed validator -/
theorem C13_nothing_left (d : Nat) (amts : List Nat) (h : amts.sum = d) :
    amts.foldl (fun acc a => acc - a) d = 0 := by
  induction amts generalizing d with
  | nil => simp at h; simp [h]
  | cons a as ih =>
    simp only [List.sum_cons] at h
    simp only [List.foldl_cons]
    exact ih (d - a) (by omega)

example : (([(202, 5), (203, 7)] : List (Addr × Nat)).map (·.2)).sum = 12 := by decide

/-! ### End to end: the whole RemoveValidator transaction

  Carried through the message queue for the removed validator `v`:
  `v` is not registered; the hub's stake on `v` is at most what pending messages will move away
  from it; no pending message could put stake on `v` or register it again. -/

structure RemInv (v : Addr) (s : Sys) (q : List Msg) : Prop where
  gone : v ∉ s.reg.vals
  left : s.chain.deleg v ≤ leavingAll v q
  ok : AllOk v q

theorem RemInv.step (v : Addr) (s s' : Sys) (m : Msg) (rest subs : List Msg)
    (inv : RemInv v s (m :: rest)) (hx : s.handle m = .ok (s', subs)) : RemInv v s' (subs ++ rest) := by
  have hm : ¬ Bad v m := inv.ok m (List.mem_cons_self ..)
  have hrest : AllOk v rest := fun x hx' => inv.ok x (List.mem_cons_of_mem _ hx')
  have hleft := inv.left
  rw [leavingAll_cons] at hleft
  -- in every case: what `m` was to move away from `v` has left `v`, or the messages `m` emits will move it
  have fin : v ∉ s'.reg.vals → AllOk v subs → s'.chain.deleg v + leaving v m ≤ s.chain.deleg v + leavingAll v subs →
      RemInv v s' (subs ++ rest) := fun h1 h2 h3 =>
    ⟨h1, by rw [leavingAll_append]; omega, AllOk.append h2 hrest⟩
  cases m with
  | bankSend src dst d amt =>
    obtain ⟨hb, rfl⟩ := handle_bankSend hx
    obtain ⟨_, _, rfl⟩ := bankMove_ok hb
    exact fin inv.gone (AllOk.nil v) (Nat.le_refl _)
  | delegate who v' amt =>
    obtain ⟨_, _, _, _, rfl, rfl⟩ := handle_delegate hx
    refine fin inv.gone (AllOk.nil v) (Nat.le_of_eq ?_)
    show upd s.chain.deleg v' _ v + 0 = _
    rw [upd_other _ _ _ _ fun h => hm h.symm]
    rfl
  | undelegate who v' amt =>
    obtain ⟨_, _, _, _, rfl, rfl⟩ := handle_undelegate hx
    refine fin inv.gone (AllOk.nil v) ?_
    show upd s.chain.deleg v' _ v + 0 ≤ s.chain.deleg v + 0
    by_cases h : v = v'
    · subst h; rw [upd_same]; omega
    · rw [upd_other _ _ _ _ h]; exact Nat.le_refl _
  | redelegate who src dst amt =>
    obtain ⟨_, _, _, _, _, hge, rfl, rfl⟩ := handle_redelegate hx
    refine fin inv.gone (AllOk.nil v) ?_
    show upd (upd s.chain.deleg src _) dst _ v + (if src = v then amt else 0) ≤ s.chain.deleg v + 0
    rw [upd_other _ _ _ _ fun h => hm h.symm]
    by_cases hs : src = v
    · subst hs; rw [upd_same, if_pos rfl]; omega
    · rw [upd_other _ _ _ _ (Ne.symm hs), if_neg hs]; exact Nat.le_refl _
  | withdrawReward who v' =>
    obtain ⟨_, _, rfl, _, _, rfl, _⟩ := handle_withdrawReward hx
    exact fin inv.gone (AllOk.nil v) (Nat.le_refl _)
  | setWithdrawAddr who a =>
    obtain ⟨_, rfl, rfl⟩ := handle_setWithdrawAddr hx
    exact fin inv.gone (AllOk.nil v) (Nat.le_refl _)
  | wasm a b c d =>
    have ch := handle_wasm_chain s s' a b c d subs hx
    have out := handle_emits hx
    obtain ⟨s1, hmv, r⟩ := handle_wasm hx
    obtain ⟨_, rfl⟩ := moveFunds_chain hmv
    cases r with
    | hub hm' h' hr hs =>
      subst hs
      have st := hubExec_steer v _ _ _ _ _ _ _ hr
        (fun reg vs _ hvs hin => inv.gone ((validatorsOf_mem hvs v).mp hin))
        (fun src plan he p hp hpv => hm (he ▸ ⟨p, hp, hpv⟩))
      refine fin inv.gone st.1 ?_
      rw [ch.1, st.2]
      cases hm' with
      | redelegateProxy src plan => simp only [leaving, true_and]; exact Nat.le_refl _
      | _ => exact Nat.le_refl _
    | reg rm r' hr hs =>
      subst hs
      have st := regExec_steer v _ a rm _ _ hr inv.gone fun v' he hv' => hm (he ▸ hv')
      exact fin st.2 st.1 (by rw [ch.1]; exact Nat.le_add_right _ _)
    | bsei _ _ _ hs | stsei _ _ _ hs | reward _ _ _ hs | disp _ _ _ hs | swap _ _ _ _ _ _ _ hs _ | sink _ hs _ =>
      subst hs
      have hp := idle_all fun x h => (out x h).idle v (by decide) (by decide)
      exact fin inv.gone hp.1 (by rw [ch.1, hp.2, leaving_elsewhere v (by decide)]; exact Nat.le_refl _)

theorem remove_emits (s : Sys) (sender v : Addr) (r' : RegSt) (ms : List Msg)
    (hx : s.regExec sender (.remove v) = .ok (r', ms)) (hh : s.reg.hub = hubA)
    (hset : s.chain.delegSet v = true) (hnr : s.chain.noRedelegate v = false) : ms ≠ [] := by
  obtain ⟨_, rfl, _, hr⟩ := regExec_remove hx
  obtain ⟨_, _, ⟨_, hb⟩ | ⟨_, _, _, _, rfl⟩⟩ := regExec_redelegations hr
  · have := (hb hh hset).1
    rw [hnr] at this
    cases this
  · exact List.cons_ne_nil _ _

/-- **The whole RemoveValidator transaction.** If the transaction succeeds — the registry's
    handler, the hub's proxy, every Redelegate on the staking module, and the index update the
    registry triggers afterwards with everything *it* causes (reward withdrawal, swap, dispatch,
    re-bonding of rewards) — then it was sent by the registry owner, the validator is out of the
    registry at the end, and, provided the chain allowed the redelegation, the hub has no stake left
    on it: nothing in the transaction, re-bonded rewards included, was delegated to it. -/
theorem C13_end_to_end (s s' : Sys) (sender v : Addr) (c : ChainOK s) (hh : s.reg.hub = hubA)
    (hallow : s.chain.noRedelegate v = false ∨ s.chain.deleg v = 0)
    (hx : Sys.run 400 s [.wasm sender regA (.reg (.remove v)) []] = .ok s') :
    sender = s.reg.owner ∧ v ∉ s'.reg.vals ∧ s'.chain.deleg v = 0 := by
  obtain ⟨s1', subs, h1, hx⟩ := run_ok_cons hx
  obtain ⟨s1, rm, r', hc, hmv, hx', rfl⟩ := handle_reg h1
  cases hc
  cases hmv
  obtain ⟨hs, _, hgone, _, hshape⟩ := C13_remove_validator s sender v _ _ hx'
  have inv1 : RemInv v { s with reg := r' } (subs ++ []) := by
    rw [List.append_nil]
    rcases hshape with rfl | ⟨plan, rfl, hsum, _, _, htargets⟩
    · -- nothing was emitted: there was nothing movable
      refine ⟨hgone, Nat.le_of_eq (Classical.byContradiction fun hz => ?_), AllOk.nil v⟩
      have hset : s.chain.delegSet v = true :=
        Classical.byContradiction fun hb => hz (c.unset v ((Bool.not_eq_true _).mp hb))
      exact remove_emits s sender v _ _ hx' hh hset (hallow.resolve_right hz) rfl
    · refine ⟨hgone, ?_, AllOk.cons ?_ (AllOk.cons id (AllOk.nil v))⟩
      · simp only [leavingAll, List.map_cons, List.map_nil, List.sum_cons, List.sum_nil, leaving, hh, and_self,
          if_true, Nat.add_zero]
        exact Nat.le_of_eq hsum.symm
      · rintro ⟨t, ht, rfl⟩
        exact hgone (htargets t ht).1
  have fin := run_inv2 (RemInv v) (fun a b r a' sb => RemInv.step v a a' b r sb) 399 _ _ s' inv1 hx
  have := fin.left
  simp only [leavingAll, List.map_nil, List.sum_nil] at this
  exact ⟨hs, fin.gone, by omega⟩

/-! Non-vacuity: a state with two registered validators and 1000 staked on the first meets the
    premises, and the whole removal transaction (redelegation, index update, dispatch) succeeds. -/
def twoValidators : Sys :=
  { genesisSys with
    reg := { genesisSys.reg with vals := [201, 202] },
    chain := { genesisSys.chain with deleg := upd genesisSys.chain.deleg 201 1000,
                                      delegSet := upd genesisSys.chain.delegSet 201 true },
    hub := { genesisSys.hub with sBond := 1000 } }

example : ∃ s', Sys.run 400 twoValidators [.wasm 1 regA (.reg (.remove 201)) []] = .ok s' := ⟨_, rfl⟩
example : twoValidators.reg.hub = hubA ∧ twoValidators.chain.noRedelegate 201 = false := ⟨rfl, rfl⟩
example : ChainOK twoValidators := by
  refine ⟨fun w hw => ?_, fun w hw => ?_⟩
  · show upd _ 201 1000 w = 0
    have : w ≠ 201 := fun h => hw (by rw [h]; decide)
    rw [upd_other _ _ _ _ this]; rfl
  · show upd _ 201 1000 w = 0
    by_cases h : w = 201
    · subst h; simp [twoValidators, upd] at hw
    · rw [upd_other _ _ _ _ h]; rfl

end Krp
