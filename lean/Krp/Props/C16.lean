/-
  C16 — Reward-contract balances mirror bSei token balances at all times.

  Two halves, composed through the message queue:
  (1) every successful bSei handler emits, for the reward contract, Decrease/Increase messages whose
      net effect on every address equals that address's balance change in the token ledger
      (and whose net total equals the supply change);
  (2) the reward contract applies an Increase/Decrease from the registered token exactly
      (that holder's mirrored balance and the total move by the amount, nobody else's).
  `Mirror` is the invariant "token balance + pending decreases = mirrored balance + pending
  increases"; `C16_queue_step_token` / `C16_queue_step_reward`: it is preserved by executing the head
  of the queue when that is a bSei message or a mirror message; when the queue has drained the two
  ledgers agree (`C16_drained`).
-/
import Krp.Props.C14
namespace Krp
open Token

/-- what one message adds to the pending Increase / Decrease of address `a` (only messages the
    token `tok` sends to the reward contract `r` count) -/
def incAmt (tok r a : Addr) : Msg → Nat
  | Msg.wasm s t (.reward (.increase x amt)) _ => if s = tok ∧ t = r ∧ x = a then amt else 0
  | _ => 0
def decAmt (tok r a : Addr) : Msg → Nat
  | Msg.wasm s t (.reward (.decrease x amt)) _ => if s = tok ∧ t = r ∧ x = a then amt else 0
  | _ => 0
def incAmtAll (tok r : Addr) : Msg → Nat
  | Msg.wasm s t (.reward (.increase _ amt)) _ => if s = tok ∧ t = r then amt else 0
  | _ => 0
def decAmtAll (tok r : Addr) : Msg → Nat
  | Msg.wasm s t (.reward (.decrease _ amt)) _ => if s = tok ∧ t = r then amt else 0
  | _ => 0

/-- pending Increase / Decrease totals of a message queue -/
def incOf (tok r a : Addr) (q : List Msg) : Nat := (q.map (incAmt tok r a)).sum
def decOf (tok r a : Addr) (q : List Msg) : Nat := (q.map (decAmt tok r a)).sum
def incAll (tok r : Addr) (q : List Msg) : Nat := (q.map (incAmtAll tok r)).sum
def decAll (tok r : Addr) (q : List Msg) : Nat := (q.map (decAmtAll tok r)).sum

@[simp] theorem incOf_nil (tok r a : Addr) : incOf tok r a [] = 0 := rfl
@[simp] theorem decOf_nil (tok r a : Addr) : decOf tok r a [] = 0 := rfl
@[simp] theorem incAll_nil (tok r : Addr) : incAll tok r [] = 0 := rfl
@[simp] theorem decAll_nil (tok r : Addr) : decAll tok r [] = 0 := rfl
@[simp] theorem incOf_cons (tok r a : Addr) (m : Msg) (q : List Msg) :
    incOf tok r a (m :: q) = incAmt tok r a m + incOf tok r a q := by simp [incOf]
@[simp] theorem decOf_cons (tok r a : Addr) (m : Msg) (q : List Msg) :
    decOf tok r a (m :: q) = decAmt tok r a m + decOf tok r a q := by simp [decOf]
@[simp] theorem incAll_cons (tok r : Addr) (m : Msg) (q : List Msg) :
    incAll tok r (m :: q) = incAmtAll tok r m + incAll tok r q := by simp [incAll]
@[simp] theorem decAll_cons (tok r : Addr) (m : Msg) (q : List Msg) :
    decAll tok r (m :: q) = decAmtAll tok r m + decAll tok r q := by simp [decAll]
theorem incOf_append (tok r a : Addr) (x y : List Msg) :
    incOf tok r a (x ++ y) = incOf tok r a x + incOf tok r a y := by simp [incOf]
theorem decOf_append (tok r a : Addr) (x y : List Msg) :
    decOf tok r a (x ++ y) = decOf tok r a x + decOf tok r a y := by simp [decOf]
theorem incAll_append (tok r : Addr) (x y : List Msg) :
    incAll tok r (x ++ y) = incAll tok r x + incAll tok r y := by simp [incAll]
theorem decAll_append (tok r : Addr) (x y : List Msg) :
    decAll tok r (x ++ y) = decAll tok r x + decAll tok r y := by simp [decAll]

theorem receiveMsg_amt (tok r a self sender c hubc : Addr) (n : Nat) (k : Hook) :
    incAmt tok r a (receiveMsg self sender c hubc n k) = 0 ∧ decAmt tok r a (receiveMsg self sender c hubc n k) = 0 ∧
    incAmtAll tok r (receiveMsg self sender c hubc n k) = 0 ∧ decAmtAll tok r (receiveMsg self sender c hubc n k) = 0 := by
  unfold receiveMsg
  split <;> exact ⟨rfl, rfl, rfl, rfl⟩

/-- (1) every successful bSei message: for every address the ledger change equals the net of the
    mirror messages it emits to the reward contract, and the supply change equals their net total.
    Covers Transfer, Send, Mint, Burn, TransferFrom, SendFrom, BurnFrom and the allowance messages. -/
theorem C16_token_emits_exact_mirror (t t' : Token) (b : Block) (self r hubc sender : Addr)
    (m : TokMsg) (ms : List Msg) (hx : bseiExec t b self (.ok r) hubc sender m = .ok (t', ms))
    (hne : self ≠ r ∨ True) (a : Addr) :
    t'.bal a + decOf self r a ms = t.bal a + incOf self r a ms ∧
    t'.supply + decAll self r ms = t.supply + incAll self r ms := by
  obtain ⟨hc, hm⟩ := bseiExec_ok hx
  cases hm r rfl
  -- the emitted list summed up, message by message (the hook is dealt with before `incAmt` … unfold)
  cases m
  all_goals simp only [bseiOut, decOf_cons, incOf_cons, decAll_cons, incAll_cons, decOf_nil, incOf_nil, decAll_nil,
    incAll_nil, ↓receiveMsg_amt self r a, incAmt, decAmt, incAmtAll, decAmtAll, and_self, true_and, if_true]
  -- … against what the ledger operation does to `a` and to the supply
  case transfer to amt | send to amt hook =>
    have hb := move_bal (transfer_ok hc).2 a
    have hs := transfer_supply _ _ _ _ _ hc
    omega
  case transferFrom o to amt | sendFrom o to amt hook =>
    have hb := transferFrom_bal hc a
    have hs := transferFrom_supply _ _ _ _ _ _ _ hc
    omega
  case burn amt =>
    have hb := burn_bal (core_burn hc).2 a
    omega
  case burnFrom o amt =>
    have hb := burnFrom_bal hc a
    omega
  case mint to amt =>
    have hb := mint_bal hc a
    omega
  case incAllow s amt e =>
    obtain ⟨_, _, rfl⟩ := incAllow_ok hc
    exact ⟨rfl, rfl⟩
  case decAllow s amt e =>
    rcases decAllow_ok hc with ⟨_, _, rfl⟩ | rfl <;> exact ⟨rfl, rfl⟩
  case updateMinter n | updateMarketing => cases hx

/-- (2) the reward contract applies a mirror message from the registered token exactly -/
theorem C16_reward_applies (rw rw' : RewardSt) (self tok : Addr) (dp : Res Addr) (bb : Denom → Nat)
    (a amt : Nat) (ms : List Msg) (inc : Bool)
    (hx : rewardExec rw self (.ok tok) dp bb tok (if inc then .increase a amt else .decrease a amt) = .ok (rw', ms)) :
    ms = [] ∧ (∀ x, x ≠ a → rw'.hBal x = rw.hBal x) ∧
    (if inc then rw'.hBal a = rw.hBal a + amt ∧ rw'.totalBalance = rw.totalBalance + amt
     else rw'.hBal a + amt = rw.hBal a ∧ rw'.totalBalance + amt = rw.totalBalance) := by
  cases inc with
  | true =>
    have hx' : rewardExec rw self (.ok tok) dp bb tok (.increase a amt) = .ok (rw', ms) := hx
    cases rewardExec_route hx' with
    | increase _ _ acc _ _ hr hm =>
      subst hr
      exact ⟨hm, fun x hx' => if_neg hx', upd_same _ _ _, rfl⟩
  | false =>
    have hx' : rewardExec rw self (.ok tok) dp bb tok (.decrease a amt) = .ok (rw', ms) := hx
    cases rewardExec_route hx' with
    | decrease _ _ acc _ hb _ htot hr hm =>
      subst hr
      refine ⟨hm, fun x hx' => if_neg hx', ?_, ?_⟩
      · show upd rw.hBal a (rw.hBal a - amt) a + amt = rw.hBal a
        rw [upd_same]; omega
      · show rw.totalBalance - amt + amt = rw.totalBalance
        omega

/-- the invariant that links the two ledgers through the pending message queue -/
def Mirror (t : Token) (rw : RewardSt) (tok r : Addr) (q : List Msg) : Prop :=
  (∀ a, t.bal a + decOf tok r a q = rw.hBal a + incOf tok r a q) ∧
  t.supply + decAll tok r q = rw.totalBalance + incAll tok r q

/-- queue step (i): executing a bSei token message at the head of the queue (CosmWasm puts the
    messages it emits in front of the rest) keeps the two ledgers linked -/
theorem C16_queue_step_token (t t' : Token) (rw : RewardSt) (b : Block) (self r hubc sender : Addr)
    (m : TokMsg) (f : List (Denom × Nat)) (ms rest : List Msg)
    (hinv : Mirror t rw self r (Msg.wasm sender self (.tok m) f :: rest))
    (hx : bseiExec t b self (.ok r) hubc sender m = .ok (t', ms)) :
    Mirror t' rw self r (ms ++ rest) := by
  unfold Mirror at *
  simp only [decOf_cons, incOf_cons, decAll_cons, incAll_cons, incAmt, decAmt, incAmtAll, decAmtAll, Nat.zero_add] at hinv
  constructor
  · intro a
    have h1 := (C16_token_emits_exact_mirror t t' b self r hubc sender m ms hx (Or.inr trivial) a).1
    have h2 := hinv.1 a
    rw [incOf_append, decOf_append]; omega
  · have h1 := (C16_token_emits_exact_mirror t t' b self r hubc sender m ms hx (Or.inr trivial) 0).2
    have h2 := hinv.2
    rw [incAll_append, decAll_append]; omega

/-- queue step (ii): executing a pending Increase/Decrease on the reward contract -/
theorem C16_queue_step_reward (t : Token) (rw rw' : RewardSt) (self tok : Addr) (dp : Res Addr)
    (bb : Denom → Nat) (a amt : Nat) (inc : Bool) (f : List (Denom × Nat)) (ms rest : List Msg)
    (hinv : Mirror t rw tok self
      (Msg.wasm tok self (.reward (if inc then .increase a amt else .decrease a amt)) f :: rest))
    (hx : rewardExec rw self (.ok tok) dp bb tok (if inc then .increase a amt else .decrease a amt) = .ok (rw', ms)) :
    Mirror t rw' tok self (ms ++ rest) := by
  obtain ⟨rfl, hoth, hat⟩ := C16_reward_applies rw rw' self tok dp bb a amt ms inc hx
  -- the head message is worth `amt` to `a` and to the total, on the side the handler has just applied
  cases inc
  all_goals
    simp only [Mirror, decOf_cons, incOf_cons, decAll_cons, incAll_cons, incAmt, decAmt, incAmtAll, decAmtAll,
      and_self, true_and, Bool.false_eq_true, if_false, if_true] at hinv hat
    refine ⟨fun x => ?_, by have := hinv.2; show _ + decAll tok self rest = _ + incAll tok self rest; omega⟩
    have hx := hinv.1 x
    show _ + decOf tok self x rest = _ + incOf tok self x rest
    by_cases hxa : a = x
    · subst hxa
      rw [if_pos rfl] at hx
      omega
    · rw [if_neg hxa] at hx
      rw [hoth x (Ne.symm hxa)]
      omega

/-- when the queue has drained the reward contract mirrors the token exactly: every address and
    the total -/
theorem C16_drained (t : Token) (rw : RewardSt) (tok r : Addr) (h : Mirror t rw tok r []) :
    (∀ a, rw.hBal a = t.bal a) ∧ rw.totalBalance = t.supply := by
  unfold Mirror at h
  simp only [decOf_nil, incOf_nil, decAll_nil, incAll_nil, Nat.add_zero] at h
  exact ⟨fun a => (h.1 a).symm, h.2.symm⟩

/-- start: a token instantiated without initial balances and a fresh reward contract mirror each other -/
theorem C16_init (hub sender rh : Addr) (d : Denom) (sw : Addr) (ds : List Denom) (tok r : Addr) :
    Mirror (emptyToken true hub) (rewardInit sender rh d sw ds) tok r [] := by
  unfold Mirror; simp [emptyToken, rewardInit]

/-! ### Every reachable state of the composed system

  Hypotheses, all of them E3 ("trusted owner configuration"): the six contracts are wired to
  each other, owners and nominees are outside accounts, and the top-level messages of the
  history come from outside accounts other than those owners / nominees (so nobody reconfigures).
  Conclusion: after every transaction of every such history — whatever else happens: bonds,
  unbonds, converts, transfers through allowances, failed transactions, slashing, index updates,
  validator removal — the reward contract's per-holder balances and total are exactly the bSei
  ledger's balances and supply. -/

theorem incAmt_off (tok r a s t : Addr) (c : Call) (f : List (Denom × Nat)) (h : s ≠ tok ∨ t ≠ r) :
    incAmt tok r a (.wasm s t c f) = 0 ∧ decAmt tok r a (.wasm s t c f) = 0 ∧
    incAmtAll tok r (.wasm s t c f) = 0 ∧ decAmtAll tok r (.wasm s t c f) = 0 := by
  have hn : ∀ {p : Prop}, ¬(s = tok ∧ t = r ∧ p) := fun e => h.elim (· e.1) (· e.2.1)
  have hn' : ¬(s = tok ∧ t = r) := fun e => h.elim (· e.1) (· e.2)
  cases c with
  | reward rm =>
    cases rm with
    | increase x n => exact ⟨if_neg hn, rfl, if_neg hn', rfl⟩
    | decrease x n => exact ⟨rfl, if_neg hn, rfl, if_neg hn'⟩
    | _ => exact ⟨rfl, rfl, rfl, rfl⟩
  | _ => exact ⟨rfl, rfl, rfl, rfl⟩

theorem incAmt_from (tok r a : Addr) (m : Msg) (h : m.sentFrom ≠ tok) :
    incAmt tok r a m = 0 ∧ decAmt tok r a m = 0 ∧ incAmtAll tok r m = 0 ∧ decAmtAll tok r m = 0 := by
  cases m with
  | wasm s t c f => exact incAmt_off tok r a s t c f (.inl h)
  | _ => exact ⟨rfl, rfl, rfl, rfl⟩

theorem incOf_from (tok r : Addr) (q : List Msg) (h : ∀ x ∈ q, x.sentFrom ≠ tok) :
    (∀ a, incOf tok r a q = 0 ∧ decOf tok r a q = 0) ∧ incAll tok r q = 0 ∧ decAll tok r q = 0 := by
  induction q with
  | nil => simp
  | cons m rest ih =>
    have hm := fun a => incAmt_from tok r a m (h m (List.mem_cons_self ..))
    have hr := ih (fun x hx => h x (List.mem_cons_of_mem _ hx))
    refine ⟨fun a => ?_, ?_, ?_⟩
    · simp only [incOf_cons, decOf_cons, (hm a).1, (hm a).2.1, (hr.1 a).1, (hr.1 a).2]; simp
    · simp only [incAll_cons, (hm 0).2.2.1, hr.2.1]
    · simp only [decAll_cons, (hm 0).2.2.2, hr.2.2]

theorem Mirror.push {t : Token} {rw : RewardSt} {tok r : Addr} {subs rest : List Msg}
    (hs : ∀ x ∈ subs, x.sentFrom ≠ tok) (h : Mirror t rw tok r rest) : Mirror t rw tok r (subs ++ rest) := by
  have z := incOf_from tok r subs hs
  refine ⟨fun a => ?_, ?_⟩
  · rw [decOf_append, incOf_append, (z.1 a).1, (z.1 a).2, Nat.zero_add, Nat.zero_add]; exact h.1 a
  · rw [decAll_append, incAll_append, z.2.1, z.2.2, Nat.zero_add, Nat.zero_add]; exact h.2

theorem Mirror.frame {t : Token} {rw rw' : RewardSt} {tok r : Addr} {m : Msg} {subs rest : List Msg}
    (hb : ∀ a, rw'.hBal a = rw.hBal a) (htot : rw'.totalBalance = rw.totalBalance)
    (hm : ∀ a, incAmt tok r a m = 0 ∧ decAmt tok r a m = 0 ∧ incAmtAll tok r m = 0 ∧ decAmtAll tok r m = 0)
    (hs : ∀ x ∈ subs, x.sentFrom ≠ tok) (h : Mirror t rw tok r (m :: rest)) :
    Mirror t rw' tok r (subs ++ rest) := by
  refine Mirror.push hs ⟨fun a => ?_, ?_⟩
  · have := h.1 a
    rw [decOf_cons, incOf_cons, (hm a).1, (hm a).2.1] at this
    rw [hb a]; omega
  · have := h.2
    rw [decAll_cons, incAll_cons, (hm 0).2.2.1, (hm 0).2.2.2] at this
    rw [htot]; omega

theorem reward_mirror_cases {r r' : RewardSt} {self tok : Addr} {dsp : Res Addr} {bal : Denom → Nat}
    {sender : Addr} {m : RewMsg} {ms : List Msg}
    (hx : rewardExec r self (.ok tok) dsp bal sender m = .ok (r', ms)) :
    (∃ a amt, m = .increase a amt ∧ sender = tok) ∨ (∃ a amt, m = .decrease a amt ∧ sender = tok) ∨
    ((∀ a, r'.hBal a = r.hBal a) ∧ r'.totalBalance = r.totalBalance ∧
      ∀ tk rc a s t f, incAmt tk rc a (.wasm s t (.reward m) f) = 0 ∧ decAmt tk rc a (.wasm s t (.reward m) f) = 0 ∧
        incAmtAll tk rc (.wasm s t (.reward m) f) = 0 ∧ decAmtAll tk rc (.wasm s t (.reward m) f) = 0) := by
  cases rewardExec_route hx with
  | increase a amt _ ht => cases ht; exact .inl ⟨a, amt, rfl, rfl⟩
  | decrease a amt _ ht => cases ht; exact .inr (.inl ⟨a, amt, rfl, rfl⟩)
  | claim _ _ _ _ _ hr =>
    subst hr
    refine .inr (.inr ⟨fun a => ?_, rfl, fun _ _ _ _ _ _ => ⟨rfl, rfl, rfl, rfl⟩⟩)
    show upd r.hBal sender (r.hBal sender) a = r.hBal a
    unfold upd
    split
    · rename_i h; rw [h]
    · rfl
  | updateConfig _ _ _ _ hr | setOwner _ _ hr | acceptOwnership _ hr | swapToRewardDenom _ hr | indexIdle _ _ hr
  | indexMoved _ _ _ hr | updateSwapDenom _ _ _ hr =>
    subst hr; exact .inr (.inr ⟨fun _ => rfl, rfl, fun _ _ _ _ _ _ => ⟨rfl, rfl, rfl, rfl⟩⟩)

def ownersOf (s : Sys) : List Addr :=
  [s.hub.creator, s.hub.newOwner, s.disp.owner, s.disp.newOwner, s.reward.owner, s.reward.newOwner]

structure MirrorInv (o : List Addr) (s : Sys) (q : List Msg) : Prop where
  wired : Wired s
  wf : s.bsei.WF
  owners : ownersOf s = o
  mirror : Mirror s.bsei s.reward bseiA rewardA q
  senders : ∀ m ∈ q, ∀ a b c d, m = .wasm a b c d → a ∉ o

theorem internal_not_owner {s : Sys} (w : Wired s) (a : Addr) (ha : a ∈ internal) : a ∉ ownersOf s := by
  intro hm
  simp only [ownersOf, List.mem_cons, List.mem_nil_iff, or_false] at hm
  rcases hm with h | h | h | h | h | h
  · exact w.hubOwner (h ▸ ha)
  · exact w.hubNominee (h ▸ ha)
  · exact w.dispOwner (h ▸ ha)
  · exact w.dispNominee (h ▸ ha)
  · exact w.rwOwner (h ▸ ha)
  · exact w.rwNominee (h ▸ ha)

theorem not_owner {s : Sys} {a : Addr} (h : a ∉ ownersOf s) :
    a ≠ s.hub.creator ∧ a ≠ s.hub.newOwner ∧ a ≠ s.disp.owner ∧ a ≠ s.disp.newOwner ∧
    a ≠ s.reward.owner ∧ a ≠ s.reward.newOwner := by
  simpa only [ownersOf, List.mem_cons, List.mem_nil_iff, or_false, not_or] using h

theorem handle_owners {s s' : Sys} {m : Msg} {ms : List Msg} (hx : s.handle m = .ok (s', ms))
    (hsender : ∀ a b c d, m = .wasm a b c d → a ∉ ownersOf s) : ownersOf s' = ownersOf s := by
  cases handle_touch s s' m ms hx with
  | none h _ _ _ => simp only [ownersOf, h.hub, h.disp, h.reward]
  | bsei _ _ _ _ _ _ _ h _ r d _ | stsei _ _ _ _ _ _ h _ r d _ | reg _ _ _ _ _ _ _ _ _ h _ _ r d =>
    simp only [ownersOf, h, d, r]
  | hub _ _ _ _ heq _ _ _ hx' _ _ r d _ =>
    have hs := not_owner (hsender _ _ _ _ heq)
    rcases hubExec_config _ _ _ _ _ _ _ hx' with c | c | c
    · simp only [ownersOf, c.creator, c.newOwner, d, r]
    · exact absurd c hs.1
    · exact absurd c hs.2.1
  | reward _ _ _ _ heq _ _ _ hx' h _ _ d _ =>
    have hs := not_owner (hsender _ _ _ _ heq)
    have c := rewardExec_quiet hx' hs.2.2.2.2.1 hs.2.2.2.2.2
    simp only [ownersOf, h, d, c.owner, c.newOwner]
  | disp _ _ _ _ heq _ _ hx' h _ _ r _ =>
    have hs := not_owner (hsender _ _ _ _ heq)
    rcases dispExec_config _ _ _ _ _ _ _ hx' with c | c | c
    · simp only [ownersOf, h, r, c.2.1, c.2.2]
    · exact absurd c hs.2.2.1
    · exact absurd c hs.2.2.2.1

theorem MirrorInv.step (o : List Addr) (s s' : Sys) (m : Msg) (rest subs : List Msg)
    (inv : MirrorInv o s (m :: rest)) (hx : s.handle m = .ok (s', subs)) :
    MirrorInv o s' (subs ++ rest) := by
  have w := inv.wired
  have hsender : ∀ a b c d, m = .wasm a b c d → a ∉ ownersOf s :=
    fun a b c d hm => inv.owners ▸ inv.senders m (List.mem_cons_self ..) a b c d hm
  have w' : Wired s' := handle_wired s s' m subs w inv.wf hx (fun a b c d hm => not_owner (hsender a b c d hm))
  have own : ownersOf s' = o := (handle_owners hx hsender).trans inv.owners
  have sent := handle_sentBy s s' m subs hx
  -- the two ledgers move only when the token or the reward contract is called
  have key : s'.bsei.WF ∧ Mirror s'.bsei s'.reward bseiA rewardA (subs ++ rest) := by
    have same : s'.bsei = s.bsei → s'.reward = s.reward →
        (∀ a, incAmt bseiA rewardA a m = 0 ∧ decAmt bseiA rewardA a m = 0 ∧
          incAmtAll bseiA rewardA m = 0 ∧ decAmtAll bseiA rewardA m = 0) →
        (∀ x ∈ subs, x.sentFrom ≠ bseiA) →
        s'.bsei.WF ∧ Mirror s'.bsei s'.reward bseiA rewardA (subs ++ rest) := by
      intro hb hr hm hs
      rw [hb, hr]
      exact ⟨inv.wf, Mirror.frame (fun _ => rfl) rfl hm hs inv.mirror⟩
    cases handle_touch s s' m subs hx with
    | none h hm hs _ =>
      refine same h.bsei h.reward (fun a => ?_) (fun x hx' => by rw [hs x hx']; decide)
      rcases hm with hm | ⟨_, _, _, _, rfl, ht⟩
      · cases m with
        | wasm a1 b1 c1 d1 => exact absurd rfl (hm a1 b1 c1 d1)
        | _ => exact ⟨rfl, rfl, rfl, rfl⟩
      · exact incAmt_off _ _ _ _ _ _ _ (.inr (by rcases ht with ht | ht <;> rw [ht] <;> decide))
    | hub _ _ _ _ heq _ _ _ _ b _ r _ _ | stsei _ _ _ _ heq _ _ b r _ _ | disp _ _ _ _ heq _ _ _ _ b _ r _
    | reg _ _ _ _ heq _ _ _ _ _ b _ r _ =>
      subst heq
      exact same b r (fun a => incAmt_off _ _ _ _ _ _ _ (.inr (by decide)))
        (fun x hx' => by rw [sent.1 _ _ _ _ rfl x hx']; decide)
    | bsei s1 sender funds tm heq h1 hx' _ _ r _ _ =>
      subst heq
      rw [(w.of_same h1).rewardAddr] at hx'
      rw [r]
      exact ⟨(C18_bsei_step _ _ _ _ _ _ _ _ _ inv.wf hx').2.1,
        C16_queue_step_token _ _ _ _ _ _ _ _ _ _ _ _ inv.mirror hx'⟩
    | reward s1 sender funds rm heq h1 _ _ hx' _ b _ _ _ =>
      subst heq
      rw [(w.of_same h1).tokenOf] at hx'
      rw [b]
      refine ⟨inv.wf, ?_⟩
      rcases reward_mirror_cases hx' with ⟨a, amt, rfl, rfl⟩ | ⟨a, amt, rfl, rfl⟩ | ⟨hb, ht, hz⟩
      · exact C16_queue_step_reward s.bsei s.reward s'.reward rewardA bseiA _ _ a amt true funds subs rest inv.mirror hx'
      · exact C16_queue_step_reward s.bsei s.reward s'.reward rewardA bseiA _ _ a amt false funds subs rest inv.mirror hx'
      · exact Mirror.frame hb ht (fun _ => hz ..) (fun x hx'' => by rw [sent.1 _ _ _ _ rfl x hx'']; decide) inv.mirror
  refine ⟨w', key.1, own, key.2, ?_⟩
  -- what is emitted is sent by the handling contract, none of the owners
  intro x hx' a b c d hxe
  rcases List.mem_append.mp hx' with hin | hin
  · have := (handle_emits hx x hin).from_internal
    rw [hxe] at this
    rw [← own]; exact internal_not_owner w' a this
  · exact inv.senders x (List.mem_cons_of_mem _ hin) a b c d hxe

/-- a history step allowed under E3: an environment event, or a top-level contract call by an outside
    account that is none of the owners / nominees in `o` -/
def QuietStep (o : List Addr) : Step → Prop
  | .env _ => True
  | .tx m => ∃ a b c d, m = .wasm a b c d ∧ External a ∧ a ∉ o

/-- **Every reachable state.** -/
theorem C16_reachable (s : Sys) (l : List Step)
    (w : Wired s) (wf : s.bsei.WF) (hm : Mirror s.bsei s.reward bseiA rewardA [])
    (hq : ∀ st ∈ l, QuietStep (ownersOf s) st) :
    (∀ a, (s.steps l).reward.hBal a = (s.steps l).bsei.bal a) ∧
    (s.steps l).reward.totalBalance = (s.steps l).bsei.supply := by
  refine C16_drained _ _ _ _ (steps_inv2 (fun x => MirrorInv (ownersOf s) x []) (MirrorInv (ownersOf s))
    (fun _ st => QuietStep (ownersOf s) st) (fun s0 m0 rest0 s1 subs0 => MirrorInv.step _ s0 s1 m0 rest0 subs0)
    ?_ (fun _ h => h) ?_ l s ⟨w, wf, rfl, hm, fun _ h => nomatch h⟩
    (fun pre st post he => hq st (he ▸ List.mem_append_right _ (List.mem_cons_self ..)))).mirror
  · -- a transaction starts with its top-level message, sent by an outside account
    intro x m inv ⟨a, b, c, d, hm', hext, hno⟩
    refine ⟨inv.wired, inv.wf, inv.owners, Mirror.push (subs := [m]) ?_ inv.mirror, ?_⟩
    · intro x0 hx0 h
      cases List.mem_singleton.mp hx0
      rw [hm'] at h
      exact hext (show a ∈ internal by rw [show a = bseiA from h]; decide)
    · intro m1 hm1 a1 b1 c1 d1 he1
      cases List.mem_singleton.mp hm1
      cases hm'.symm.trans he1
      exact hno
  · intro x e inv _
    have of_sc : SameContracts x (x.env e) → MirrorInv (ownersOf s) (x.env e) [] := fun sc =>
      ⟨inv.wired.of_same sc, by rw [sc.bsei]; exact inv.wf,
        by rw [← inv.owners]; simp only [ownersOf, sc.hub, sc.disp, sc.reward],
        by rw [sc.bsei, sc.reward]; exact inv.mirror, inv.senders⟩
    cases e with
    | seedLegacy u b a =>
      exact ⟨⟨inv.wired.tokHub, inv.wired.hubDisp, inv.wired.dispRw, inv.wired.rwHub, inv.wired.hubTok,
        inv.wired.hubOwner, inv.wired.hubNominee, inv.wired.dispOwner, inv.wired.dispNominee,
        inv.wired.rwOwner, inv.wired.rwNominee⟩, inv.wf, inv.owners, inv.mirror, inv.senders⟩
    | _ => exact of_sc (env_same x _ (fun _ _ _ h => nomatch h))

/-! Non-vacuity: the genesis state of the corpus satisfies every premise of `C16_reachable`, and a
    user's bond is a `QuietStep`. -/
example : Wired genesisSys := by
  refine ⟨rfl, rfl, rfl, rfl, rfl, ?_, ?_, ?_, ?_, ?_, ?_⟩ <;> (unfold External; decide)
example : genesisSys.bsei.WF := (C18_init_wf true hubA [] _ rfl).1
example : Mirror genesisSys.bsei genesisSys.reward bseiA rewardA [] :=
  C16_init hubA 1 hubA 1 swapA [0, 1] bseiA rewardA
example : QuietStep (ownersOf genesisSys) (.tx (.wasm 5 hubA (.hub .bond) [(0, 1000)])) :=
  ⟨5, hubA, _, _, rfl, by unfold External; decide, by decide⟩

end Krp
