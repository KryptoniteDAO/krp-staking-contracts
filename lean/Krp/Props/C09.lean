/-
  C09 — Holders can always exit; exits do not depend on the reward plumbing.

  (i)  liveness of the hub side of an unbond, fault point by fault point, from explicit premises
       (each is an invariant established elsewhere: C02 books ≤ delegations, C03 true-ratio rates,
       C08 monotone time, E3 registrations);
  (ii) the first unbond after the epoch undelegates (C08_undelegation_only_after_epoch);
  (iii) withdrawal after the unbonding period: C01 (funded, under C01's side condition);
  (iv) non-interference: the handlers on the exit paths read nothing of the swap / oracle state.
  (v)  the exits as whole transactions through the message executor, token ledger and reward mirror
       included: `C09_stsei_unbond_tx_succeeds`, `C09_bsei_unbond_tx_succeeds`, their closing-batch
       forms and `C09_matured_withdraw_tx_succeeds`, each a composition of queue segments (`Runs`).
  PARTIAL: the bSei forms keep the premises that exclude the known findings D5 / D6.
-/
import Krp.Props.C01
import Krp.Props.C14
import Krp.Lemmas.Calm
namespace Krp
open HubSt

theorem delegationsOf_facts (s : Sys) :
    ((s.delegationsOf hubA).map (·.1)).Nodup ∧ (s.delegationsOf hubA).length ≤ 12 ∧
    ∀ x ∈ s.delegationsOf hubA, s.chain.deleg x.1 = x.2 := by
  unfold Sys.delegationsOf
  rw [if_pos rfl, List.map_map, List.length_map]
  refine ⟨?_, List.length_filter_le _ valUniverse, fun x hx => ?_⟩
  · exact (List.map_id _).symm ▸ List.Pairwise.sublist List.filter_sublist (by decide)
  · obtain ⟨v, _, rfl⟩ := List.mem_map.mp hx
    rfl

/-- the value undelegated for a pool never exceeds its booked stake when the rate is a true ratio
    (so the `checked_sub` in process_undelegations cannot fail) -/
theorem C09_undelegation_within_books (r B S R : Nat) (h : r * (S + R) ≤ B * D) : mulDec R r ≤ B := by
  unfold mulDec
  apply Nat.div_le_of_le_mul
  rw [Nat.mul_comm D]
  refine Nat.le_trans ?_ h
  rw [Nat.mul_comm]
  exact Nat.mul_le_mul_left _ (by omega)

theorem mulDec_rateOf_le (B S R a : Nat) (ha : a ≤ S) (h : B ≠ 0 ∨ R + a = 0) :
    mulDec (R + a) (rateOf B S R) ≤ B := by
  rcases h with h | h
  · apply C09_undelegation_within_books _ _ (S - a)
    rw [show S - a + (R + a) = S + R by omega]
    exact rateOf_mul_le B S R (Or.inl (Nat.pos_of_ne_zero h))
  · rw [h, mulDec_zero_left]; exact Nat.zero_le _

/-- `pick_validator` succeeds whenever something is delegated and the claim does not exceed it -/
theorem C09_pick_validator_live (e : HubEnv) (claim : Nat) (hd : e.delegations ≠ [])
    (hle : claim ≤ (e.delegations.map (·.2)).sum) (hr : (e.delegations.map (·.2)).sum < U128) :
    ∃ ms, pickValidator e claim = .ok ms := by
  have pm := (perm_sortDesc e.delegations).map (·.2)
  unfold pickValidator
  simp only []
  cases hc : calculateUndelegations 1 claim ((sortDesc e.delegations).map (·.2)) with
  | some plan => exact ⟨_, rfl⟩
  | none =>
    rcases (C12_undeleg_fails_iff 0 claim _).mp hc with h | h | h
    · exact absurd (List.map_eq_nil_iff.mp (h ▸ pm).nil_eq.symm) hd
    · rw [pm.sum_nat] at h; omega
    · rw [pm.sum_nat] at h; omega

theorem processUndelegations_live {h : HubSt} {e : HubEnv} (hd : e.delegations ≠ [])
    (hr : (e.delegations.map (·.2)).sum < U128) (hs : mulDec h.reqS h.sRate ≤ h.sBond)
    (hb : mulDec h.reqB h.bRate ≤ h.bBond)
    (hsum : mulDec h.reqB h.bRate + mulDec h.reqS h.sRate ≤ (e.delegations.map (·.2)).sum) :
    ∃ h' ms, h.processUndelegations e = .ok (h', ms) := by
  obtain ⟨ms, hpk⟩ := C09_pick_validator_live e _ hd hsum hr
  unfold processUndelegations
  simp only [hpk]
  rw [if_neg (by omega), if_neg (by omega)]
  exact ⟨_, _, rfl⟩

theorem unbondS_eq {h st : HubSt} {e : HubEnv} {tok : Addr} (amt : Nat) (u : Addr)
    (hact : h.actualState e = .ok st) (ht : st.lastUnbondedTime ≤ e.now) (htok : h.stsei = some tok) :
    h.unbondS e amt u =
      if e.now - st.lastUnbondedTime > st.epoch then
        ((st.afterUnbondS u amt).processUndelegations e).map
          (fun r => (r.1, r.2 ++ [tokMsg e.self tok (.burn amt)]))
      else .ok (st.afterUnbondS u amt, [tokMsg e.self tok (.burn amt)]) := by
  unfold unbondS
  simp only [hact, htok]
  rw [if_neg (by omega)]
  by_cases hep : e.now - st.lastUnbondedTime > st.epoch
  · rw [if_pos hep, if_pos hep]
    cases (st.afterUnbondS u amt).processUndelegations e <;> rfl
  · rw [if_neg hep, if_neg hep]

theorem unbondB_eq {h st : HubSt} {e : HubEnv} {tok : Addr} {supply amt wfee : Nat} (u : Addr)
    (hact : h.actualState e = .ok st) (hbs : st.bSupplyQ e = .ok supply)
    (hfee : st.pegFeeOnBurn supply amt = .ok wfee) (hle : amt ≤ supply)
    (ht : st.lastUnbondedTime ≤ e.now) (htok : h.bsei = some tok) :
    h.unbondB e amt u =
      if e.now - st.lastUnbondedTime > st.epoch then
        ((st.afterUnbondB u supply amt wfee).processUndelegations e).map
          (fun r => (r.1, r.2 ++ [tokMsg e.self tok (.burn amt)]))
      else .ok (st.afterUnbondB u supply amt wfee, [tokMsg e.self tok (.burn amt)]) := by
  unfold unbondB
  simp only [hact, hbs, hfee, htok]
  rw [if_neg (by omega), if_neg (by omega)]
  by_cases hep : e.now - st.lastUnbondedTime > st.epoch
  · rw [if_pos hep, if_pos hep]
    cases (st.afterUnbondB u supply amt wfee).processUndelegations e <;> rfl
  · rw [if_neg hep, if_neg hep]

/-- (i) stSei unbond at the hub cannot fail when: the slashing check succeeds, time does not run
    backwards, the stSei token is registered, and — if this unbond closes the batch — something is
    delegated, the two undelegation values fit the books (C09_undelegation_within_books) and
    together do not exceed the delegations (C02). -/
theorem C09_unbond_stsei_live (h st : HubSt) (e : HubEnv) (amount : Nat) (user tok : Addr)
    (hst : h.actualState e = .ok st) (htime : st.lastUnbondedTime ≤ e.now) (htok : h.stsei = some tok)
    (hund : e.now - st.lastUnbondedTime > st.epoch →
      e.delegations ≠ [] ∧ (e.delegations.map (·.2)).sum < U128 ∧
      mulDec (st.reqS + amount) st.sRate ≤ st.sBond ∧ mulDec st.reqB st.bRate ≤ st.bBond ∧
      mulDec st.reqB st.bRate + mulDec (st.reqS + amount) st.sRate ≤ (e.delegations.map (·.2)).sum) :
    ∃ h' ms, h.unbondS e amount user = .ok (h', ms) := by
  rw [unbondS_eq amount user hst htime htok]
  by_cases hep : e.now - st.lastUnbondedTime > st.epoch
  · obtain ⟨hd, hr, hs, hb, hsum⟩ := hund hep
    obtain ⟨h', ms, hpu⟩ : ∃ h' ms, (st.afterUnbondS user amount).processUndelegations e = .ok (h', ms) := by
      unfold afterUnbondS
      exact processUndelegations_live hd hr hs hb hsum
    rw [if_pos hep, hpu]
    exact ⟨_, _, rfl⟩
  · rw [if_neg hep]
    exact ⟨_, _, rfl⟩

theorem actualState_live (h : HubSt) (e : HubEnv) (bs ss : Nat)
    (hb : h.bSupplyQ e = .ok bs) (hs : h.sSupplyQ e = .ok ss) : ∃ st, h.actualState e = .ok st := by
  unfold actualState
  by_cases h1 : e.delegations = []
  · exact ⟨h, if_pos h1⟩
  by_cases h2 : h.bBond + h.sBond = 0
  · exact ⟨h, by rw [if_neg h1, if_pos h2]⟩
  rw [if_neg h1, if_neg h2]
  simp only [hb, hs, bind, Except.bind, pure, Except.pure]
  rw [if_neg (Nat.not_lt.mpr (split_le _ _ _ (Nat.le_add_right ..)))]
  exact ⟨_, (apply_ite Except.ok _ _ _).symm⟩

theorem Sys.actualState_live (s : Sys) (hbt : s.hub.bsei = some bseiA) (hst : s.hub.stsei = some stseiA) :
    ∃ st, s.hub.actualState s.hubEnv = .ok st :=
  Krp.actualState_live s.hub s.hubEnv s.bsei.supply s.stsei.supply
    (by simp only [HubSt.bSupplyQ, hbt]; rfl) (by simp only [HubSt.sSupplyQ, hst]; rfl)

theorem checked_rates {h st : HubSt} {e : HubEnv} (hact : h.actualState e = .ok st) (hd : e.delegations ≠ [])
    (hb : st.bBond ≠ 0 ∨ st.sBond ≠ 0) :
    ∃ bs ss, h.bSupplyQ e = .ok bs ∧ h.sSupplyQ e = .ok ss ∧
      st.bRate = rateOf st.bBond bs h.reqB ∧ st.sRate = rateOf st.sBond ss h.reqS := by
  rcases (actualState_spec h st e hact).2 with ⟨hz, rfl⟩ | ⟨bs, ss, _, _, h3, h4, h5, h6, _⟩
  · have := hz.resolve_left hd
    omega
  · exact ⟨bs, ss, h3, h4, h5, h6⟩

/-- the peg fee of a bSei burn cannot fail: the gap it is capped by is `supply + requested − bond`,
    and below the threshold rate the bond does not exceed that -/
theorem pegFeeOnBurn_ok {h st : HubSt} {e : HubEnv} {supply : Nat} (amt : Nat) (hact : h.actualState e = .ok st)
    (hbq : h.bSupplyQ e = .ok supply) (hfee : h.fee ≤ D) (hthr : h.thr ≤ D)
    (hd : e.delegations ≠ [] ∨ h.bBond + h.sBond = 0)
    (hstale : h.bBond + h.sBond = 0 → h.bRate < h.thr → h.bBond ≤ supply + h.reqB) :
    ∃ x, st.pegFeeOnBurn supply amt = .ok x ∧ x ≤ amt := by
  obtain ⟨sb, spec⟩ := actualState_spec h st e hact
  unfold HubSt.pegFeeOnBurn
  by_cases hlt : st.bRate < st.thr
  · have hgap : ¬ (supply + st.reqB < st.bBond) := by
      rcases spec with ⟨hz, rfl⟩ | ⟨bs, ss, _, _, hbq', _, hbR, _, _⟩
      · have := hstale (hz.elim (fun hz => hd.elim (absurd hz) id) id) hlt
        omega
      · cases hbq.symm.trans hbq'
        intro hgt
        rw [sb.reqB] at hgt
        have hthr' : st.thr ≤ D := sb.thr ▸ hthr
        by_cases hc : supply + h.reqB = 0
        · rw [hbR, rateOf_eq, if_pos (Or.inr hc)] at hlt; omega
        · have := le_rateOf D st.bBond supply h.reqB (by omega) (by omega)
            (Nat.mul_comm .. ▸ Nat.mul_le_mul_right D (Nat.le_of_lt hgt))
          omega
    have hm : mulDec amt st.fee ≤ amt := mulDec_le amt st.fee (sb.fee ▸ hfee)
    have := Nat.min_le_left (mulDec amt st.fee) (supply + st.reqB - st.bBond)
    rw [if_pos hlt, if_neg hgap, if_neg (by omega)]
    exact ⟨_, rfl, Nat.sub_le ..⟩
  · exact ⟨amt, if_neg hlt, Nat.le_refl _⟩

/-- (iv) Non-interference: what the exit handlers read — the hub's environment, the block, the
    registered sibling addresses, bank balances — does not contain the oracle or swap state, so
    bond, unbond, convert, withdraw, token transfers and reward claims compute the same result
    whether those work, fail or return garbage. -/
theorem C09_exits_ignore_swap_and_oracle (s : Sys) (ook sok : Bool) (op sp : Nat) :
    let s' : Sys := { s with chain := { s.chain with oracleOk := ook, oraclePrice := op, swapOk := sok, swapP2 := sp } }
    s'.hubEnv.delegations = s.hubEnv.delegations ∧ s'.hubEnv.hubBalance = s.hubEnv.hubBalance ∧
    s'.hubEnv.now = s.hubEnv.now ∧ s'.block = s.block ∧ s'.bseiRewardAddr = s.bseiRewardAddr ∧
    s'.hubTokenOf = s.hubTokenOf ∧ s'.hubDispatcherOf = s.hubDispatcherOf ∧
    s'.chain.bank = s.chain.bank ∧ s'.hub = s.hub ∧ s'.bsei = s.bsei ∧ s'.stsei = s.stsei ∧
    s'.reward = s.reward ∧
    (∀ a, s'.supplyOf a = s.supplyOf a) ∧ (∀ a, s'.validatorsOf a = s.validatorsOf a) := by
  intro s'
  refine ⟨rfl, rfl, rfl, rfl, rfl, rfl, rfl, rfl, rfl, rfl, rfl, rfl, fun _ => rfl, fun _ => rfl⟩

/-- …consequently the hub executes every message identically under any swap / oracle behaviour. -/
theorem C09_hub_independent_of_stubs (s : Sys) (ook sok : Bool) (op sp : Nat) (sender : Addr)
    (funds : List (Denom × Nat)) (m : HubMsg) :
    hubExec ({ s with chain := { s.chain with oracleOk := ook, oraclePrice := op, swapOk := sok, swapP2 := sp } } : Sys).hub
      ({ s with chain := { s.chain with oracleOk := ook, oraclePrice := op, swapOk := sok, swapP2 := sp } } : Sys).hubEnv
      sender funds m = hubExec s.hub s.hubEnv sender funds m := rfl

example : mulDec 10 (9 * D / 10) ≤ 9 := by decide

/-! ### Non-interference, as whole transactions

  `withStubs s …` is `s` with the swap / oracle stubs set to arbitrary behaviour (working, failing,
  any price).  Calm messages (`Lemmas/Calm.lean`) include every user-facing exit operation: Bond,
  BondForStSei, the cw20 Send/SendFrom that carries Unbond or Convert, WithdrawUnbonded,
  CheckSlashing, every token message, ClaimRewards. -/

def withStubs (s : Sys) (ook : Bool) (op : Nat) (sok : Bool) (sp : Nat) : Sys :=
  { s with chain := { s.chain with oracleOk := ook, oraclePrice := op, swapOk := sok, swapP2 := sp } }

theorem bankMove_stubs (s : Sys) (ook : Bool) (op : Nat) (sok : Bool) (sp : Nat) (src dst : Addr) (d : Denom) (amt : Nat) :
    (withStubs s ook op sok sp).bankMove src dst d amt =
      (s.bankMove src dst d amt).map (fun r => withStubs r ook op sok sp) := by
  simp only [Sys.bankMove, apply_ite (Except.map _)]
  rfl

theorem moveFunds_stubs (ook : Bool) (op : Nat) (sok : Bool) (sp : Nat) (src dst : Addr) :
    ∀ (l : List (Denom × Nat)) (s : Sys), (withStubs s ook op sok sp).moveFunds src dst l =
      (s.moveFunds src dst l).map (fun r => withStubs r ook op sok sp) := by
  intro l
  induction l with
  | nil => intro s; rfl
  | cons c rest ih =>
    intro s
    simp only [Sys.moveFunds]
    rw [bankMove_stubs]
    cases s.bankMove src dst c.1 c.2 with
    | error e => rfl
    | ok s1 => exact ih s1

theorem dispExec_env (c : DispSt) (self : Addr) (env env' : DispEnv) (sender : Addr) (m : DispMsg)
    (hb : env.bal = env'.bal) (hm : ∀ a b, m ≠ .swap a b) :
    dispExec c self env sender m = dispExec c self env' sender m := by
  cases m with
  | swap a b => exact absurd rfl (hm a b)
  | dispatch => simp only [dispExec, hb]
  | _ => rfl

theorem handle_stubs (s : Sys) (ook : Bool) (op : Nat) (sok : Bool) (sp : Nat) (m : Msg) (hc : Calm m = true) :
    (withStubs s ook op sok sp).handle m =
      (s.handle m).map (fun r => (withStubs r.1 ook op sok sp, r.2)) := by
  cases m with
  | bankSend src dst d amt =>
    simp only [Sys.handle]
    rw [bankMove_stubs, Except.map_bind, Except.bind_map]
    rfl
  | wasm sender target call funds =>
    simp only [Sys.handle]
    rw [moveFunds_stubs, Except.map_bind, Except.bind_map]
    congr 1
    funext s1
    simp only [apply_ite (Except.map _)]
    -- leaf by leaf: the contract called runs on arguments that are the same for both states; only
    -- `dispEnv` carries the four fields, and only the dispatcher's swap reads them from it
    refine ite_congr rfl (fun _ => ?_) fun _ => ite_congr rfl (fun _ => ?_) fun _ => ite_congr rfl (fun _ => ?_)
      fun _ => ite_congr rfl (fun _ => ?_) fun _ => ite_congr rfl (fun _ => ?_) fun _ => ite_congr rfl (fun _ => ?_)
      fun _ => ite_congr rfl (fun _ => ?_) fun _ => rfl
    · cases call with | hub hm => simp only [Except.map_bind]; rfl | _ => rfl
    · cases call with | tok tm => simp only [Except.map_bind]; rfl | _ => rfl
    · cases call with | tok tm => simp only [Except.map_bind]; rfl | _ => rfl
    · cases call with | reward rm => simp only [Except.map_bind]; rfl | _ => rfl
    · cases call with
      | disp dm =>
        simp only [Except.map_bind]
        rw [dispExec_env _ dispA (withStubs s1 ook op sok sp).dispEnv s1.dispEnv sender dm rfl
          fun a b h => by subst h; cases hc]
        rfl
      | _ => rfl
    · cases call with | reg rm => simp only [Except.map_bind]; rfl | _ => rfl
    · cases call with | swapDenom a b c d => cases hc | _ => rfl
  | _ =>
    -- the guards of the staking module's messages read none of the four fields
    simp only [Sys.handle, bind, Except.bind, pure, Except.pure, throw, throwThe, MonadExceptOf.throw,
      apply_ite (Except.map _)]
    rfl

theorem run_stubs (ook : Bool) (op : Nat) (sok : Bool) (sp : Nat) :
    ∀ (fuel : Nat) (s : Sys) (q : List Msg), AllCalm q →
      Sys.run fuel (withStubs s ook op sok sp) q = (Sys.run fuel s q).map (fun r => withStubs r ook op sok sp) := by
  intro fuel
  induction fuel with
  | zero =>
    intro s q _
    cases q <;> rfl
  | succ n ih =>
    intro s q hq
    cases q with
    | nil => rfl
    | cons m rest =>
      have hm : Calm m = true := hq m (List.mem_cons_self ..)
      simp only [Sys.run]
      rw [handle_stubs s ook op sok sp m hm]
      cases hh : s.handle m with
      | error e => rfl
      | ok r =>
        obtain ⟨s1, subs⟩ := r
        simp only [Except.map]
        apply ih
        intro x hx
        rcases List.mem_append.mp hx with h | h
        · exact handle_calm s s1 m subs hm hh x h
        · exact hq x (List.mem_cons_of_mem _ h)

/-- **Non-interference, as whole transactions.** For every state, every behaviour of the swap and
    oracle stubs, and every calm top-level message (all user-facing exit operations are calm), the
    transaction has the same outcome — success or the same failure — and leaves every contract, bank
    account, delegation, unbonding entry and pending reward exactly as it would with any other stub
    behaviour. -/
theorem C09_noninterference (s : Sys) (m : Msg) (hc : Calm m = true) (ook : Bool) (op : Nat) (sok : Bool) (sp : Nat) :
    ((withStubs s ook op sok sp).exec m).2 = (s.exec m).2 ∧
    ((withStubs s ook op sok sp).exec m).1 = withStubs (s.exec m).1 ook op sok sp := by
  unfold Sys.exec
  rw [run_stubs ook op sok sp 400 s [m] (List.forall_mem_singleton.mpr hc)]
  cases Sys.run 400 s [m] with
  | error e => exact ⟨rfl, rfl⟩
  | ok r => exact ⟨rfl, rfl⟩

/-- the user-facing exit operations are calm, whoever sends them and whatever they carry -/
example (u : Addr) (f : List (Denom × Nat)) (a : Nat) (hook : Hook) (rc : Option Addr) :
    Calm (.wasm u hubA (.hub .bond) f) = true ∧ Calm (.wasm u hubA (.hub .bondForStSei) f) = true ∧
    Calm (.wasm u hubA (.hub .withdrawUnbonded) f) = true ∧ Calm (.wasm u hubA (.hub .checkSlashing) f) = true ∧
    Calm (.wasm u bseiA (.tok (.send hubA a hook)) f) = true ∧ Calm (.wasm u stseiA (.tok (.send hubA a hook)) f) = true ∧
    Calm (.wasm u bseiA (.tok (.transfer 6 a)) f) = true ∧ Calm (.wasm u rewardA (.reward (.claim rc)) f) = true :=
  ⟨rfl, rfl, rfl, rfl, rfl, rfl, rfl, rfl⟩

/-! ### Liveness, as whole transactions

  `stsei_unbond_tx` / `bsei_unbond_tx` walk an unbond through the queue once, for whatever the hub's
  handler answered; the `C09_*_tx_succeeds` theorems after each supply the answer inside an epoch and
  when the request closes the batch. -/

theorem undelegates_run : ∀ (vs : List (Addr × Nat)) (ps : List Nat) (s : Sys),
    (vs.map (·.1)).Nodup → (∀ x ∈ vs, s.chain.deleg x.1 = x.2) →
    (∀ j, nth ps j ≤ nth (vs.map (·.2)) j) → (∀ v, s.chain.noUndelegate v = false) →
    ∃ k c, k ≤ vs.length ∧ c.time = s.chain.time ∧ c.height = s.chain.height ∧ c.bank = s.chain.bank ∧
      Runs k s (zipMsgs (fun v p => Msg.undelegate hubA v p) vs ps) { s with chain := c } := by
  intro vs
  induction vs with
  | nil => exact fun ps s _ _ _ _ => ⟨0, s.chain, Nat.le_refl _, rfl, rfl, rfl, .nil s⟩
  | cons x vs ih =>
    intro ps s hnd hd hle hnu
    obtain ⟨v, d⟩ := x
    cases ps with
    | nil => exact ⟨0, s.chain, Nat.zero_le _, rfl, rfl, rfl, .nil s⟩
    | cons p ps =>
      obtain ⟨hv, hnd'⟩ := List.nodup_cons.mp hnd
      have hp : p ≤ s.chain.deleg v := (hd (v, d) (List.mem_cons_self ..)).symm ▸ hle 0
      by_cases hp0 : p = 0
      · -- nothing asked of this validator: no message
        obtain ⟨k, c, hk, r⟩ := ih ps s hnd' (fun y hy => hd y (List.mem_cons_of_mem _ hy)) (fun j => hle (j + 1)) hnu
        refine ⟨k, c, Nat.le_succ_of_le hk, ?_⟩
        simp only [zipMsgs, hp0, if_true, List.nil_append]
        exact r
      · obtain ⟨s1, H⟩ := handle_undelegate_ok hp0 hp (hnu v)
        obtain ⟨_, _, _, _, _, hs1⟩ := handle_undelegate H
        obtain ⟨k, c, hk, ht, hh, hb, r⟩ := ih ps s1 hnd' (fun y hy => by
            have hne : y.1 ≠ v := fun e => hv (e ▸ List.mem_map.mpr ⟨y, hy, rfl⟩)
            rw [hs1]
            simp only [upd, hne, if_false]
            exact hd y (List.mem_cons_of_mem _ hy)) (fun j => hle (j + 1)) (hs1 ▸ hnu)
        subst hs1
        refine ⟨k + 1, c, Nat.succ_le_succ hk, ht, hh, hb, ?_⟩
        simp only [zipMsgs, hp0, if_false, List.singleton_append]
        exact .step H r

/-- the Undelegate messages of a plan that asks no validator for more than it holds are all
    accepted by the staking module; they change nothing but delegations and the unbonding queue -/
theorem run_undelegates : ∀ (vs : List (Addr × Nat)) (ps : List Nat) (s : Sys) (rest : List Msg),
    (vs.map (·.1)).Nodup → (∀ x ∈ vs, s.chain.deleg x.1 = x.2) →
    (∀ j, nth ps j ≤ nth (vs.map (·.2)) j) → (∀ v, s.chain.noUndelegate v = false) →
    ∃ k s', k ≤ vs.length ∧ SameContracts s s' ∧ s'.chain.time = s.chain.time ∧ s'.chain.height = s.chain.height ∧
      s'.chain.bank = s.chain.bank ∧
      ∀ n, Sys.run (n + k) s (zipMsgs (fun v p => Msg.undelegate hubA v p) vs ps ++ rest) = Sys.run n s' rest := by
  intro vs ps s rest hnd hd hle hnu
  obtain ⟨k, c, hk, ht, hh, hb, r⟩ := undelegates_run vs ps s hnd hd hle hnu
  exact ⟨k, { s with chain := c }, hk, ⟨rfl, rfl, rfl, rfl, rfl, rfl⟩, ht, hh, hb, fun n => r n rest⟩

theorem picked_run {s0 s : Sys} {claim : Nat} {um : List Msg} (hpk : pickValidator s0.hubEnv claim = .ok um)
    (hc : s.chain = s0.chain) (hnu : ∀ v, s0.chain.noUndelegate v = false) :
    ∃ k c, k ≤ 12 ∧ Runs k s um { s with chain := c } := by
  obtain ⟨plan, hplan, rfl⟩ := pickValidator_plan hpk
  obtain ⟨nd, len, dv⟩ := delegationsOf_facts s0
  have pm := perm_sortDesc (s0.delegationsOf hubA)
  obtain ⟨k, c, hk, _, _, _, r⟩ := undelegates_run (sortDesc (s0.delegationsOf hubA)) plan s
    ((pm.map _).nodup_iff.mpr nd) (fun x hx => hc ▸ dv x (pm.mem_iff.mp hx))
    (fun j => ((C12_undeleg_conserves 0 _ _ plan hplan).2.2 j).1) (hc ▸ hnu)
  exact ⟨k, c, Nat.le_trans hk (pm.length_eq ▸ len), r⟩

/-- An stSei holder's `Send … Unbond` to the hub as a whole transaction, given what the hub's handler
    answers (`hun`) and that the Undelegate messages in the answer go through (`hum`). -/
theorem stsei_unbond_tx {s : Sys} {u : Addr} {amt : Nat} {h2 : HubSt} {um : List Msg}
    (hp : s.hub.isPaused = false) (hbt : s.hub.bsei = some bseiA) (hst : s.hub.stsei = some stseiA)
    (hth : s.stsei.hub = hubA) (wf : s.stsei.WF) (hpos : 0 < amt) (hbal : amt ≤ s.stsei.bal u)
    (hun : s.hub.unbondS s.hubEnv amt u = .ok (h2, um ++ [tokMsg hubA stseiA (.burn amt)]))
    (hum : ∀ s2 : Sys, s2.chain = s.chain → ∃ k c, k ≤ 12 ∧ Runs k s2 um { s2 with chain := c }) :
    ∃ s', s.exec (.wasm u stseiA (.tok (.send hubA amt .unbond)) []) = (s', .ok ()) ∧
      SameBooks h2 s'.hub ∧ s'.stsei.supply + amt = s.stsei.supply := by
  -- the token moves the amount to the hub and notifies it
  obtain ⟨t1, ht1, hb1⟩ := Token.transfer_live s.stsei u hubA amt hpos hbal
  obtain ⟨st1, _⟩ := Token.transfer_step s.stsei t1 wf u hubA amt ht1
  have H1 : s.handle (.wasm u stseiA (.tok (.send hubA amt .unbond)) []) =
      .ok ({ s with stsei := t1 }, [.wasm stseiA hubA (.hub (.receive u amt .unbond)) []]) :=
    Ran.handle rfl (.stsei _ _
      (by simp only [stseiExec, ht1, bind, Except.bind, pure, Except.pure, receiveMsg, if_true]) rfl)
  -- the supply is unchanged, so the hub sees the environment of `s`; it records the request
  have henv : ({ s with stsei := t1 } : Sys).hubEnv = s.hubEnv :=
    hubEnv_congr rfl rfl (Nat.add_right_cancel st1.supply) rfl
  have H2 : ({ s with stsei := t1 } : Sys).handle (.wasm stseiA hubA (.hub (.receive u amt .unbond)) []) =
      .ok ({ s with stsei := t1, hub := h2 }, um ++ [tokMsg hubA stseiA (.burn amt)]) :=
    handle_hub_call (by
      rw [henv, ← hun]
      simp only [hubExec, hp, hbt, hst, bind, Except.bind, pure, Except.pure, Bool.false_eq_true, if_false,
        if_true]
      rw [if_neg (by decide)])
  -- the Undelegate messages change the chain only
  obtain ⟨k, c3, hk, r3⟩ := hum { s with stsei := t1, hub := h2 } rfl
  -- the hub burns what it received, and the token asks for the slashing check
  obtain ⟨t2, ht2⟩ := Token.burn_live t1 st1.wf hubA amt hpos hb1
  have H3 : ({ s with stsei := t1, hub := h2, chain := c3 } : Sys).handle (tokMsg hubA stseiA (.burn amt)) =
      .ok ({ s with stsei := t2, hub := h2, chain := c3 }, [.wasm stseiA hubA (.hub .checkSlashing) []]) :=
    Ran.handle rfl (.stsei _ _ (by
      simp only [stseiExec, st1.hub, hth, ht2, bind, Except.bind, pure, Except.pure, ne_eq, not_true_eq_false,
        if_false]) rfl)
  have fr := unbondS_frame _ _ _ _ _ _ hun
  obtain ⟨st4, hact4⟩ := Sys.actualState_live { s with stsei := t2, hub := h2, chain := c3 }
    (fr.2.bsei ▸ hbt) (fr.2.stsei ▸ hst)
  have H4 : ({ s with stsei := t2, hub := h2, chain := c3 } : Sys).handle (.wasm stseiA hubA (.hub .checkSlashing) []) =
      .ok ({ s with stsei := t2, hub := st4, chain := c3 }, []) :=
    handle_hub_call (by
      have hp2 : h2.isPaused = false := by unfold HubSt.isPaused at hp ⊢; rw [fr.1.paused]; exact hp
      simp only [hubExec, hp2, hact4, bind, Except.bind, pure, Except.pure, Bool.false_eq_true, if_false])
  refine ⟨_, (Runs.step H1 (.step H2 ((r3.append (.step H3 (.step H4 (.nil _)))).append (.nil _)))).exec
    (by omega), (actualState_spec _ _ _ hact4).1,
    (Token.burn_step t1 t2 st1.wf hubA amt ht2).1.supply.trans (Nat.add_right_cancel st1.supply)⟩

/-- **An stSei holder's unbond succeeds as a whole transaction** (epoch period not yet passed): token
    transfer to the hub, the request recorded in the open batch, the burn, the rate refresh — from
    any state with both tokens registered, an unpaused hub, a consistent stSei ledger and the
    sender holding the amount. -/
theorem C09_stsei_unbond_tx_succeeds (s : Sys) (u : Addr) (amt : Nat)
    (hp : s.hub.isPaused = false) (hbt : s.hub.bsei = some bseiA) (hst : s.hub.stsei = some stseiA)
    (hth : s.stsei.hub = hubA) (wf : s.stsei.WF) (hpos : 0 < amt) (hbal : amt ≤ s.stsei.bal u)
    (ht1 : s.hub.lastUnbondedTime ≤ s.chain.time)
    (ht2 : ¬ s.chain.time - s.hub.lastUnbondedTime > s.hub.epoch) :
    ∃ s', s.exec (.wasm u stseiA (.tok (.send hubA amt .unbond)) []) = (s', .ok ()) ∧
      s'.hub.waitS u s.hub.batchId = s.hub.waitS u s.hub.batchId + amt ∧
      s'.hub.reqS = s.hub.reqS + amt ∧ s'.stsei.supply + amt = s.stsei.supply := by
  obtain ⟨st, hact⟩ := s.actualState_live hbt hst
  have sb := (actualState_spec _ _ _ hact).1
  -- inside the epoch the handler answers with the burn alone: no Undelegate message to run
  have hun : s.hub.unbondS s.hubEnv amt u =
      .ok (st.afterUnbondS u amt, [] ++ [tokMsg hubA stseiA (.burn amt)]) := by
    rw [unbondS_eq amt u hact (sb.lastUnb ▸ ht1) hst, if_neg (by rw [sb.lastUnb, sb.epoch]; exact ht2)]
    rfl
  obtain ⟨s', hex, sb', hsup⟩ := stsei_unbond_tx hp hbt hst hth wf hpos hbal hun
    fun s2 _ => ⟨0, s2.chain, Nat.zero_le _, .nil s2⟩
  refine ⟨s', hex, ?_, ?_, hsup⟩
  · rw [sb'.waitS, ← sb.batchId, ← sb.waitS]
    simp only [HubSt.afterUnbondS, HubSt.addWait, upd_same]
  · rw [sb'.reqS, ← sb.reqS]; rfl

/-- **The unbond that closes the batch succeeds as a whole transaction** (stSei): the hub records
    the request, values the whole batch, the staking module accepts every Undelegate message (no
    validator is asked for more than it holds — C12), the tokens are burned and the rates
    refreshed; the batch is written to the history and the next one opens. Premises on the state
    the slashing check produces (`st`): something is delegated, the books do not exceed the
    delegations (what `C02_reachable` / the check itself establish), the staking module's limit
    on unbonding entries is not reached (E2) and neither pool is
    zero-backed (D6 — with a zero-backed pool the statement is false, known finding). -/
theorem C09_stsei_unbond_closing_batch_tx_succeeds (s : Sys) (u : Addr) (amt : Nat) (st : HubSt)
    (hp : s.hub.isPaused = false) (hbt : s.hub.bsei = some bseiA) (hst : s.hub.stsei = some stseiA)
    (hth : s.stsei.hub = hubA) (wf : s.stsei.WF) (hpos : 0 < amt) (hbal : amt ≤ s.stsei.bal u)
    (ht1 : s.hub.lastUnbondedTime ≤ s.chain.time)
    (hgate : s.chain.time - s.hub.lastUnbondedTime > s.hub.epoch)
    (hact : s.hub.actualState s.hubEnv = .ok st)
    (hd : s.delegationsOf hubA ≠ []) (hr : ((s.delegationsOf hubA).map (·.2)).sum < U128)
    (hnu : ∀ v, s.chain.noUndelegate v = false)
    (hsb : st.sBond ≠ 0) (hbb : st.bBond ≠ 0 ∨ st.reqB = 0)
    (hbooks : st.bBond + st.sBond ≤ ((s.delegationsOf hubA).map (·.2)).sum) :
    ∃ s', s.exec (.wasm u stseiA (.tok (.send hubA amt .unbond)) []) = (s', .ok ()) ∧
      s'.hub.batchId = s.hub.batchId + 1 ∧
      (∃ x, s'.hub.hist s.hub.batchId = some x ∧ x.sAmt = s.hub.reqS + amt ∧ x.time = s.chain.time ∧ x.released = false) ∧
      s'.stsei.supply + amt = s.stsei.supply := by
  have sb := (actualState_spec _ _ _ hact).1
  -- the rates the check reports are true ratios, so the batch is valued within the pools
  obtain ⟨bs, ss, _, hssq, hbR, hsR⟩ := checked_rates hact hd (Or.inr hsb)
  have hss : s.stsei.supply = ss := by
    simp only [HubSt.sSupplyQ, hst] at hssq
    exact Except.ok.inj hssq
  have hS : mulDec (st.reqS + amt) st.sRate ≤ st.sBond := by
    rw [hsR, sb.reqS]
    exact mulDec_rateOf_le _ _ _ _ (hss ▸ Nat.le_trans hbal (Token.bal_le_supply s.stsei wf u)) (Or.inl hsb)
  have hB : mulDec st.reqB st.bRate ≤ st.bBond := by
    rw [hbR, sb.reqB]; exact mulDec_rateOf_le _ _ _ 0 (Nat.zero_le _) (show _ ∨ s.hub.reqB = 0 from sb.reqB ▸ hbb)
  obtain ⟨h2, um, hpu⟩ : ∃ h2 um, (st.afterUnbondS u amt).processUndelegations s.hubEnv = .ok (h2, um) := by
    unfold afterUnbondS
    exact processUndelegations_live hd hr hS hB (Nat.le_trans (Nat.add_le_add hB hS) hbooks)
  have hun : s.hub.unbondS s.hubEnv amt u = .ok (h2, um ++ [tokMsg hubA stseiA (.burn amt)]) := by
    rw [unbondS_eq amt u hact (sb.lastUnb ▸ ht1) hst, if_pos (by rw [sb.lastUnb, sb.epoch]; exact hgate), hpu]
    rfl
  obtain ⟨hpk, _, _, _, _, _, _, _, _, hbid, _, hhist, _⟩ := processUndelegations_spec _ _ _ _ hpu
  simp only [afterUnbondS, addWait, sb.batchId, sb.reqS] at hbid hhist
  obtain ⟨s', hex, sb', hsup'⟩ := stsei_unbond_tx hp hbt hst hth wf hpos hbal hun
    fun s2 hc => picked_run hpk hc hnu
  refine ⟨s', hex, by rw [sb'.batchId, hbid], ?_, hsup'⟩
  rw [sb'.hist, hhist]
  exact ⟨_, upd_same .., rfl, rfl, rfl⟩

theorem processWithdrawRate_ok (h : HubSt) (cutoff bal : Nat) (hP : h.prevHubBalance ≤ bal) :
    ∃ h1, h.processWithdrawRate cutoff bal = .ok h1 := by
  unfold HubSt.processWithdrawRate
  simp only []
  by_cases hi : releasable h cutoff (h.batchId + 1) (h.lastProcessedBatch + 1) = []
  · exact ⟨h, if_pos hi⟩
  · have : (signedSub bal h.prevHubBalance).2 = false := by
      unfold signedSub; rw [if_neg (by omega)]
    rw [if_neg hi, this]
    exact ⟨_, rfl⟩

/-- **A holder whose matured claims are worth at least one base unit can withdraw them — the whole
    transaction succeeds and pays exactly the released share.** `FullQ s []` is what
    `C01_funded_reachable_unslashed` establishes for every state reached without slashing of the
    unbonding stake (released claims funded, arrivals accounted for, history in shape); E2, E1 and
    `now ≥ unbonding_period` are the envelope. `h1` is the hub state after the release the
    withdrawal performs (`process_withdraw_rate` at the current time and balance), which always
    exists in such a state. -/
theorem C09_matured_withdraw_tx_succeeds (s : Sys) (u : Addr) (inv : FullQ s [])
    (hp : s.hub.isPaused = false) (hu : u ≠ hubA)
    (he2 : s.hub.unbonding = s.chain.unbondingTime)
    (he1 : s.chain.bank hubA 0 - s.hub.prevHubBalance ≤ D)
    (hnow : s.hub.unbonding ≤ s.chain.time) :
    ∃ h1, s.hub.processWithdrawRate (s.chain.time - s.hub.unbonding) (s.chain.bank hubA 0) = .ok h1 ∧
      (1 ≤ (h1.finished u).1 →
        ∃ s', s.exec (.wasm u hubA (.hub .withdrawUnbonded) []) = (s', .ok ()) ∧
          s'.chain.bank u 0 = s.chain.bank u 0 + (h1.finished u).1 ∧
          (s'.hub.finished u).1 = 0) := by
  -- prev_hub_balance is in the account
  have hP : s.hub.prevHubBalance ≤ s.chain.bank hubA 0 := Nat.le_trans (Nat.le_add_right ..) inv.arr.drained
  obtain ⟨h1, hrel⟩ := processWithdrawRate_ok s.hub (s.chain.time - s.hub.unbonding) (s.chain.bank hubA 0) hP
  refine ⟨h1, hrel, fun hpos => ?_⟩
  -- the release meets the side condition (arrivals are accounted for)
  have hm : (Msg.wasm u hubA (.hub .withdrawUnbonded) []).sentFrom ≠ hubA := hu
  have inv1 := FullQ.push s _ inv hm
  have hok : WdOk s (.wasm u hubA (.hub .withdrawUnbonded) []) := by
    intro sender funds s1 heq hmv
    cases heq
    cases hmv
    exact ⟨he2, he1⟩
  have hsafe := SafeTop.of_arrive s _ [] inv1.arr inv1.hist hok hm u [] s rfl rfl hnow
  -- the handler accepts …
  obtain ⟨h', ms, hw⟩ := C01_withdraw_succeeds s.hub h1 s.hubEnv u inv.fund.claims inv.fund.funded hP
    hsafe hnow hrel hpos
  -- … and the payout goes through
  obtain ⟨s', amt, hex, hms, _, _, hbu, hh, _⟩ := C01_withdraw_tx_pays s u h' ms hp hu hw
  obtain ⟨h1', hrel', _, _, hms', _, _⟩ := C01_pays_recorded_share s.hub h' s.hubEnv u ms hw
  cases hrel.symm.trans hrel'
  cases hms.symm.trans hms'
  refine ⟨s', hex, hbu, ?_⟩
  rw [hh]
  exact (C01_paid_once s.hub h' s.hubEnv u ms hw).2

theorem reward_decrease_ok (r : RewardSt) (tokA a : Addr) (amt : Nat) (inv : r.Inv) (hb : amt ≤ r.hBal a)
    (ht : amt ≤ r.totalBalance) :
    ∃ r', (∀ self tk dp bb, tk = .ok tokA → rewardExec r self tk dp bb tokA (.decrease a amt) = .ok (r', [])) ∧
      r'.Inv ∧ r'.hBal a = r.hBal a - amt ∧ r'.totalBalance = r.totalBalance - amt ∧ r'.hub = r.hub := by
  have hx : ∀ self tk dp bb, tk = .ok tokA → rewardExec r self tk dp bb tokA (.decrease a amt) =
      .ok ({ (r.setHolder a (r.hBal a - amt) r.globalIndex ((r.globalIndex - r.hIdx a) * r.hBal a + r.hPend a)) with
              totalBalance := r.totalBalance - amt }, []) := by
    intro self tk dp bb htk
    simp only [rewardExec, htk, RewardSt.accrual_ok r inv, bind, Except.bind, pure, Except.pure]
    rw [if_neg (by simp), if_neg (by omega), if_neg (by omega)]
  exact ⟨_, hx, C14_inv_step _ _ rewardA _ (.ok tokA) (fun _ => 0) _ _ _ inv (hx _ _ _ _ rfl), upd_same .., rfl, rfl⟩

theorem reward_increase_ok (r : RewardSt) (tokA a : Addr) (amt : Nat) (inv : r.Inv) :
    ∃ r', (∀ self tk dp bb, tk = .ok tokA → rewardExec r self tk dp bb tokA (.increase a amt) = .ok (r', [])) ∧
      r'.Inv ∧ r'.hBal a = r.hBal a + amt ∧ r'.totalBalance = r.totalBalance + amt ∧ r'.hub = r.hub := by
  have hx : ∀ self tk dp bb, tk = .ok tokA → rewardExec r self tk dp bb tokA (.increase a amt) =
      .ok ({ (r.setHolder a (r.hBal a + amt) r.globalIndex ((r.globalIndex - r.hIdx a) * r.hBal a + r.hPend a)) with
              totalBalance := r.totalBalance + amt }, []) := by
    intro self tk dp bb htk
    simp only [rewardExec, htk, RewardSt.accrual_ok r inv, bind, Except.bind, pure, Except.pure]
    rw [if_neg (by simp)]
  exact ⟨_, hx, C14_inv_step _ _ rewardA _ (.ok tokA) (fun _ => 0) _ _ _ inv (hx _ _ _ _ rfl), upd_same .., rfl, rfl⟩

/-- A bSei holder's `Send … Unbond` to the hub as a whole transaction, given what the hub's handler
    answers (`hun`) and that the Undelegate messages in the answer go through (`hum`). -/
theorem bsei_unbond_tx {s : Sys} {u : Addr} {amt : Nat} {h2 : HubSt} {um : List Msg}
    (w : Wired s) (hp : s.hub.isPaused = false) (hst : s.hub.stsei = some stseiA)
    (wf : s.bsei.WF) (rinv : s.reward.Inv) (hmu : s.reward.hBal u = s.bsei.bal u)
    (hmt : s.reward.totalBalance = s.bsei.supply) (hpos : 0 < amt) (hbal : amt ≤ s.bsei.bal u)
    (hun : s.hub.unbondB s.hubEnv amt u = .ok (h2, um ++ [tokMsg hubA bseiA (.burn amt)]))
    (hum : ∀ s2 : Sys, s2.chain = s.chain → ∃ k c, k ≤ 12 ∧ Runs k s2 um { s2 with chain := c }) :
    ∃ s', s.exec (.wasm u bseiA (.tok (.send hubA amt .unbond)) []) = (s', .ok ()) ∧ s'.hub = h2 ∧
      s'.bsei.supply + amt = s.bsei.supply ∧ s'.reward.totalBalance = s'.bsei.supply := by
  have hsup : amt ≤ s.bsei.supply := Nat.le_trans hbal (Token.bal_le_supply s.bsei wf u)
  -- the token moves the amount to the hub, tells the reward contract and notifies the hub
  obtain ⟨t1, ht1, hb1⟩ := Token.transfer_live s.bsei u hubA amt hpos hbal
  obtain ⟨st1, _⟩ := Token.transfer_step s.bsei t1 wf u hubA amt ht1
  have H1 : s.handle (.wasm u bseiA (.tok (.send hubA amt .unbond)) []) =
      .ok ({ s with bsei := t1 }, [.wasm bseiA rewardA (.reward (.decrease u amt)) [],
        .wasm bseiA rewardA (.reward (.increase hubA amt)) [], .wasm bseiA hubA (.hub (.receive u amt .unbond)) []]) :=
    Ran.handle rfl (.bsei _ _ (by
      simp only [bseiExec, w.rewardAddr, ht1, bind, Except.bind, pure, Except.pure, receiveMsg, if_true]) rfl)
  -- the reward contract lowers the sender's mirrored balance and raises the hub's
  obtain ⟨r2, hr2, inv2, _, htot2, hh2⟩ := reward_decrease_ok s.reward bseiA u amt rinv (hmu ▸ hbal) (hmt ▸ hsup)
  have H2 : ({ s with bsei := t1 } : Sys).handle (.wasm bseiA rewardA (.reward (.decrease u amt)) []) =
      .ok ({ s with bsei := t1, reward := r2 }, []) :=
    Ran.handle rfl (.reward _ _ (hr2 _ _ _ _ w.tokenOf) rfl)
  obtain ⟨r3, hr3, inv3, hb3, htot3, hh3⟩ := reward_increase_ok r2 bseiA hubA amt inv2
  have htk : s.hubTokenOf r3.hub = .ok bseiA := hh3 ▸ hh2 ▸ w.tokenOf
  have htot3' : r3.totalBalance = s.bsei.supply := by rw [htot3, htot2, hmt]; exact Nat.sub_add_cancel hsup
  have H3 : ({ s with bsei := t1, reward := r2 } : Sys).handle (.wasm bseiA rewardA (.reward (.increase hubA amt)) []) =
      .ok ({ s with bsei := t1, reward := r3 }, []) :=
    Ran.handle rfl (.reward _ _ (hr3 _ _ _ _ (hh3 ▸ htk)) rfl)
  -- the supply is unchanged, so the hub sees the environment of `s`; it records the request
  have henv : ({ s with bsei := t1, reward := r3 } : Sys).hubEnv = s.hubEnv :=
    hubEnv_congr rfl (Nat.add_right_cancel st1.supply) rfl rfl
  have H4 : ({ s with bsei := t1, reward := r3 } : Sys).handle (.wasm bseiA hubA (.hub (.receive u amt .unbond)) []) =
      .ok ({ s with bsei := t1, reward := r3, hub := h2 }, um ++ [tokMsg hubA bseiA (.burn amt)]) :=
    handle_hub_call (by
      rw [henv, ← hun]
      simp only [hubExec, hp, w.hubTok, hst, bind, Except.bind, pure, Except.pure, Bool.false_eq_true, if_false,
        if_true])
  -- the Undelegate messages change the chain only
  obtain ⟨k, c5, hk, r5⟩ := hum { s with bsei := t1, reward := r3, hub := h2 } rfl
  have fr := (unbondB_frame _ _ _ _ _ _ hun).2
  -- the hub burns what it received; the token tells the reward contract, which lowers the hub's balance
  obtain ⟨t2, ht2⟩ := Token.burn_live t1 st1.wf hubA amt hpos hb1
  have hsup2 : t2.supply + amt = s.bsei.supply :=
    (Token.burn_step t1 t2 st1.wf hubA amt ht2).1.supply.trans (Nat.add_right_cancel st1.supply)
  have hra : ({ s with bsei := t1, reward := r3, hub := h2, chain := c5 } : Sys).bseiRewardAddr = .ok rewardA := by
    rw [← w.rewardAddr]
    exact bseiRewardAddr_congr st1.hub fr.dispatcher rfl
  have H5 : ({ s with bsei := t1, reward := r3, hub := h2, chain := c5 } : Sys).handle (tokMsg hubA bseiA (.burn amt)) =
      .ok ({ s with bsei := t2, reward := r3, hub := h2, chain := c5 },
        [.wasm bseiA rewardA (.reward (.decrease hubA amt)) []]) :=
    Ran.handle rfl (.bsei _ _ (by
      rw [hra]
      simp only [bseiExec, st1.hub, w.tokHub, ht2, bind, Except.bind, pure, Except.pure, ne_eq, not_true_eq_false,
        if_false]) rfl)
  obtain ⟨r6, hr6, _, _, htot6, _⟩ := reward_decrease_ok r3 bseiA hubA amt inv3 (hb3 ▸ Nat.le_add_left ..)
    (htot3' ▸ hsup)
  have H6 : ({ s with bsei := t2, reward := r3, hub := h2, chain := c5 } : Sys).handle
        (.wasm bseiA rewardA (.reward (.decrease hubA amt)) []) =
      .ok ({ s with bsei := t2, reward := r6, hub := h2, chain := c5 }, []) :=
    Ran.handle rfl (.reward _ _ (hr6 _ _ _ _ ((hubTokenOf_congr (s := s) fr.bsei _).trans htk)) rfl)
  refine ⟨_, (Runs.step H1 (.step H2 (.step H3 (.step H4 ((r5.append (.step H5 (.step H6 (.nil _)))).append
    (.nil _)))))).exec (by omega), rfl, hsup2, ?_⟩
  rw [htot6, htot3']
  exact (Nat.eq_sub_of_add_eq hsup2).symm

/-- the hub prices a bSei unbond: the slashing check, the supply query and the peg fee all succeed,
    which leaves `unbondB` with the decision whether this request closes the batch -/
theorem bsei_unbond_priced (s : Sys) (u : Addr) (amt : Nat) (w : Wired s) (hst : s.hub.stsei = some stseiA)
    (wf : s.bsei.WF) (hbal : amt ≤ s.bsei.bal u) (hfee : s.hub.fee ≤ D) (hthr : s.hub.thr ≤ D)
    (hd : s.delegationsOf hubA ≠ [] ∨ s.hub.bBond + s.hub.sBond = 0)
    (hstale : s.hub.bBond + s.hub.sBond = 0 → s.hub.bRate < s.hub.thr → s.hub.bBond ≤ s.bsei.supply + s.hub.reqB)
    (ht1 : s.hub.lastUnbondedTime ≤ s.chain.time) :
    ∃ st wfee, s.hub.actualState s.hubEnv = .ok st ∧ wfee ≤ amt ∧
      s.hub.unbondB s.hubEnv amt u =
        if s.chain.time - s.hub.lastUnbondedTime > s.hub.epoch then
          ((st.afterUnbondB u s.bsei.supply amt wfee).processUndelegations s.hubEnv).map
            (fun r => (r.1, r.2 ++ [tokMsg hubA bseiA (.burn amt)]))
        else .ok (st.afterUnbondB u s.bsei.supply amt wfee, [tokMsg hubA bseiA (.burn amt)]) := by
  obtain ⟨st, hact⟩ := s.actualState_live w.hubTok hst
  have sb := (actualState_spec _ _ _ hact).1
  have hbq : s.hub.bSupplyQ s.hubEnv = .ok s.bsei.supply := by simp only [HubSt.bSupplyQ, w.hubTok]; rfl
  obtain ⟨wfee, hwf, hwle⟩ := pegFeeOnBurn_ok amt hact hbq hfee hthr hd hstale
  refine ⟨st, wfee, hact, hwle, ?_⟩
  rw [unbondB_eq u hact (by simp only [HubSt.bSupplyQ, sb.bsei, w.hubTok]; rfl) hwf
    (Nat.le_trans hbal (Token.bal_le_supply s.bsei wf u)) (sb.lastUnb ▸ ht1) w.hubTok, sb.lastUnb, sb.epoch]
  rfl

/-- **A bSei holder's unbond succeeds as a whole transaction** (epoch period not yet passed): token
    transfer to the hub, the two reward-mirror updates, the hub's pricing with the peg fee, the
    burn and its mirror update — from any state with the contracts wired to each other (E3), an
    unpaused hub, a consistent bSei ledger mirrored by the reward contract, fee and threshold in
    range (C20) and something delegated (or nothing booked). -/
theorem C09_bsei_unbond_tx_succeeds (s : Sys) (u : Addr) (amt : Nat)
    (w : Wired s) (hp : s.hub.isPaused = false) (hst : s.hub.stsei = some stseiA)
    (wf : s.bsei.WF) (rinv : s.reward.Inv)
    (hmu : s.reward.hBal u = s.bsei.bal u) (hmh : s.reward.hBal hubA = s.bsei.bal hubA)
    (hmt : s.reward.totalBalance = s.bsei.supply)
    (hpos : 0 < amt) (hbal : amt ≤ s.bsei.bal u) (hu : u ≠ hubA)
    (hfee : s.hub.fee ≤ D) (hthr : s.hub.thr ≤ D)
    (hd : s.delegationsOf hubA ≠ [] ∨ s.hub.bBond + s.hub.sBond = 0)
    (hstale : s.hub.bBond + s.hub.sBond = 0 → s.hub.bRate < s.hub.thr → s.hub.bBond ≤ s.bsei.supply + s.hub.reqB)
    (ht1 : s.hub.lastUnbondedTime ≤ s.chain.time)
    (ht2 : ¬ s.chain.time - s.hub.lastUnbondedTime > s.hub.epoch) :
    ∃ s', s.exec (.wasm u bseiA (.tok (.send hubA amt .unbond)) []) = (s', .ok ()) ∧
      s'.bsei.supply + amt = s.bsei.supply ∧ s'.reward.totalBalance = s'.bsei.supply ∧
      s.hub.waitB u s.hub.batchId ≤ s'.hub.waitB u s.hub.batchId ∧
      s'.hub.waitB u s.hub.batchId ≤ s.hub.waitB u s.hub.batchId + amt := by
  obtain ⟨st, wfee, hact, hwle, hun⟩ := bsei_unbond_priced s u amt w hst wf hbal hfee hthr hd hstale ht1
  have sb := (actualState_spec _ _ _ hact).1
  -- inside the epoch: no Undelegate message; the claim grows by the amount less the peg fee, `wfee ≤ amt`
  rw [if_neg ht2] at hun
  obtain ⟨s', hex, hh, hsup, htot⟩ := bsei_unbond_tx (um := []) w hp hst wf rinv hmu hmt hpos hbal hun
    fun s2 _ => ⟨0, s2.chain, Nat.zero_le _, .nil s2⟩
  have hw : s'.hub.waitB u s.hub.batchId = s.hub.waitB u s.hub.batchId + wfee := by
    rw [hh, ← sb.batchId, ← sb.waitB]
    simp only [HubSt.afterUnbondB, HubSt.addWait, upd_same]
  exact ⟨s', hex, hsup, htot, by omega, by omega⟩

/-- **The bSei unbond that closes the batch succeeds as a whole transaction**: as
    `C09_bsei_unbond_tx_succeeds`, with the batch valued at the rate recomputed after the request,
    every Undelegate message accepted by the staking module, and the batch written to the history.
    Premises on the state the slashing check produces: the bSei pool is backed, the stSei pool is
    backed or has no pending requests (D6 is the failure of these), the books do not exceed the
    delegations; the staking module's unbonding-entry limit is not reached (E2). -/
theorem C09_bsei_unbond_closing_batch_tx_succeeds (s : Sys) (u : Addr) (amt : Nat)
    (w : Wired s) (hp : s.hub.isPaused = false) (hst : s.hub.stsei = some stseiA)
    (wf : s.bsei.WF) (rinv : s.reward.Inv)
    (hmu : s.reward.hBal u = s.bsei.bal u) (hmh : s.reward.hBal hubA = s.bsei.bal hubA)
    (hmt : s.reward.totalBalance = s.bsei.supply)
    (hpos : 0 < amt) (hbal : amt ≤ s.bsei.bal u) (hu : u ≠ hubA)
    (hfee : s.hub.fee ≤ D) (hthr : s.hub.thr ≤ D)
    (hdl : s.delegationsOf hubA ≠ []) (hr : ((s.delegationsOf hubA).map (·.2)).sum < U128)
    (hnu : ∀ v, s.chain.noUndelegate v = false)
    (hpre : ∀ st, s.hub.actualState s.hubEnv = .ok st →
      st.bBond ≠ 0 ∧ (st.sBond ≠ 0 ∨ st.reqS = 0) ∧
      st.bBond + st.sBond ≤ ((s.delegationsOf hubA).map (·.2)).sum)
    (ht1 : s.hub.lastUnbondedTime ≤ s.chain.time)
    (hgate : s.chain.time - s.hub.lastUnbondedTime > s.hub.epoch) :
    ∃ s', s.exec (.wasm u bseiA (.tok (.send hubA amt .unbond)) []) = (s', .ok ()) ∧
      s'.bsei.supply + amt = s.bsei.supply ∧ s'.reward.totalBalance = s'.bsei.supply ∧
      s'.hub.batchId = s.hub.batchId + 1 ∧
      (∃ x, s'.hub.hist s.hub.batchId = some x ∧ x.time = s.chain.time ∧ x.released = false) := by
  obtain ⟨st, wfee, hact, hwle, hun⟩ := bsei_unbond_priced s u amt w hst wf hbal hfee hthr (Or.inl hdl)
    (fun h0 _ => Nat.eq_zero_of_add_eq_zero_right h0 ▸ Nat.zero_le _) ht1
  have sb := (actualState_spec _ _ _ hact).1
  obtain ⟨hbb, hsb, hbooks⟩ := hpre st hact
  -- the batch is valued within the pools: the stSei rate is a true ratio, the bSei rate has just been recomputed
  obtain ⟨_, ss, _, _, _, hsR⟩ := checked_rates hact hdl (Or.inl hbb)
  have hS : mulDec st.reqS st.sRate ≤ st.sBond := by
    rw [hsR, sb.reqS]; exact mulDec_rateOf_le _ _ _ 0 (Nat.zero_le _) (show _ ∨ s.hub.reqS = 0 from sb.reqS ▸ hsb)
  have hB : mulDec (st.reqB + wfee) (rateOf st.bBond (s.bsei.supply - amt) (st.reqB + wfee)) ≤ st.bBond :=
    mulDec_rateOf_le _ _ _ 0 (Nat.zero_le _) (Or.inl hbb)
  obtain ⟨h2, um, hpu⟩ : ∃ h2 um,
      (st.afterUnbondB u s.bsei.supply amt wfee).processUndelegations s.hubEnv = .ok (h2, um) := by
    unfold afterUnbondB
    exact processUndelegations_live hdl hr hS hB (Nat.le_trans (Nat.add_le_add hB hS) hbooks)
  rw [if_pos hgate, hpu] at hun
  obtain ⟨hpk, _, _, _, _, _, _, _, _, hbid, _, hhist, _⟩ := processUndelegations_spec _ _ _ _ hpu
  simp only [afterUnbondB, addWait, sb.batchId] at hbid hhist
  obtain ⟨s', hex, hh, hsup, htot⟩ := bsei_unbond_tx w hp hst wf rinv hmu hmt hpos hbal hun
    fun s2 hc => picked_run hpk hc hnu
  refine ⟨s', hex, hsup, htot, by rw [hh, hbid], ?_⟩
  rw [hh, hhist]
  exact ⟨_, upd_same .., rfl, rfl⟩

end Krp
