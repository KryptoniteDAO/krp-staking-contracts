/-
  C20 — Stored parameters stay within their valid ranges under any update sequence.
-/
import Krp.Props.C17
namespace Krp
open HubSt

/-- instantiate: the peg fee is rejected above 1, the threshold is clamped to 1 -/
theorem C20_hub_init_range (sender now epoch unb fee thr rd upd : Nat) (h : HubSt)
    (hx : hubInit sender now epoch unb fee thr rd upd = .ok h) :
    h.fee ≤ D ∧ h.thr ≤ D ∧ h.paused = some false := by
  unfold hubInit at hx
  split at hx
  · cases hx
  · injection hx with hx; subst hx
    exact ⟨by simp only []; omega, Nat.min_le_right _ _, rfl⟩

/-- UpdateParams: field by field, an omitted field keeps its stored value; the fee is rejected above 1
    and the threshold clamped; the pause flag is set to exactly what the message says (cleared when
    omitted, as the hub defines it). Only the owner gets this far. -/
theorem C20_update_params_fields (h h' : HubSt) (sender : Addr) (ep ub fee thr : Option Nat)
    (p : Option Bool) (rd : Option Denom) (hx : h.updateParams sender ep ub fee thr p rd = .ok h') :
    sender = h.creator ∧
    h'.epoch = ep.getD h.epoch ∧ h'.unbonding = ub.getD h.unbonding ∧ h'.fee = fee.getD h.fee ∧
    h'.thr = min (thr.getD h.thr) D ∧ h'.rewardDenom = rd.getD h.rewardDenom ∧ h'.paused = p ∧
    (∀ f, fee = some f → f ≤ D) ∧ SameConfig h h' ∧
    h'.bBond = h.bBond ∧ h'.sBond = h.sBond ∧ h'.bRate = h.bRate ∧ h'.sRate = h.sRate := by
  obtain ⟨hs, hf, _, rfl⟩ := updateParams_spec hx
  exact ⟨hs, rfl, rfl, rfl, rfl, rfl, rfl, hf, ⟨rfl, rfl, rfl, rfl, rfl, rfl, rfl, rfl, rfl⟩, rfl, rfl, rfl, rfl⟩

/-- Every successful hub message of every sender keeps fee ≤ 1 and threshold ≤ 1; messages other
    than UpdateParams (and the migration's un-pause) do not touch any parameter at all. -/
theorem C20_hub_step_range (h h' : HubSt) (e : HubEnv) (sender : Addr) (funds : List (Denom × Nat))
    (m : HubMsg) (ms : List Msg) (hr : h.fee ≤ D ∧ h.thr ≤ D)
    (hx : hubExec h e sender funds m = .ok (h', ms)) :
    h'.fee ≤ D ∧ h'.thr ≤ D ∧
    ((∀ a b c d p r, m ≠ .updateParams a b c d p r) →
      h'.fee = h.fee ∧ h'.thr = h.thr ∧ h'.epoch = h.epoch ∧ h'.unbonding = h.unbonding ∧
      h'.rewardDenom = h.rewardDenom) := by
  have same : h'.fee = h.fee → h'.thr = h.thr → h'.epoch = h.epoch → h'.unbonding = h.unbonding →
      h'.rewardDenom = h.rewardDenom → h'.fee ≤ D ∧ h'.thr ≤ D ∧
      ((∀ a b c d p r, m ≠ .updateParams a b c d p r) →
        h'.fee = h.fee ∧ h'.thr = h.thr ∧ h'.epoch = h.epoch ∧ h'.unbonding = h.unbonding ∧
        h'.rewardDenom = h.rewardDenom) :=
    fun f t ep ub rd => ⟨by rw [f]; exact hr.1, by rw [t]; exact hr.2, fun _ => ⟨f, t, ep, ub, rd⟩⟩
  rcases (hubExec_frame hx).1 with p | ⟨l, _, rfl⟩ | ⟨ep, ub, fee, thr, p, rd, rfl, hp⟩
  · exact same p.fee p.thr p.epoch p.unbonding p.rewardDenom
  · have f := migrate_frame h l
    exact same f.2.1 f.2.2.1 f.2.2.2.1 f.2.2.2.2.1 f.2.2.2.2.2.1
  · obtain ⟨_, hf, _, rfl⟩ := updateParams_spec hp
    refine ⟨?_, Nat.min_le_right _ _, fun hne => absurd rfl (hne ep ub fee thr p rd)⟩
    cases fee with
    | none => exact hr.1
    | some f => exact hf f rfl

/-- Hub UpdateConfig, field by field: an omitted field keeps its value; the two token addresses can
    be written only once; no parameter changes. -/
theorem C20_hub_update_config_fields (h h' : HubSt) (self sender : Addr)
    (d r b s a rw u : Option Addr) (ms : List Msg)
    (hx : h.updateConfig self sender d r b s a rw u = .ok (h', ms)) :
    sender = h.creator ∧ SameParams h h' ∧
    h'.dispatcher = d.orElse (fun _ => h.dispatcher) ∧ h'.registry = r.orElse (fun _ => h.registry) ∧
    h'.bsei = b.orElse (fun _ => h.bsei) ∧ h'.stsei = s.orElse (fun _ => h.stsei) ∧
    h'.airdrop = a.orElse (fun _ => h.airdrop) ∧ h'.rewards = rw.orElse (fun _ => h.rewards) ∧
    h'.updater = u.getD h.updater ∧ h'.creator = h.creator ∧
    (b.isSome → h.bsei = none) ∧ (s.isSome → h.stsei = none) := by
  obtain ⟨hs, hb, hst, rfl, _⟩ := updateConfig_spec hx
  exact ⟨hs, ⟨rfl, rfl, rfl, rfl, rfl, rfl⟩, rfl, rfl, rfl, rfl, rfl, rfl, rfl, rfl, hb, hst⟩

/-- Dispatcher: the stSei reward denomination never changes, the keeper rate stays ≤ 1, and
    UpdateConfig applies exactly the fields present. -/
theorem C20_dispatcher_fields (c c' : DispSt) (self : Addr) (env : DispEnv) (sender : Addr)
    (m : DispMsg) (ms : List Msg) (hx : dispExec c self env sender m = .ok (c', ms)) :
    c'.stDenom = c.stDenom ∧
    (∀ hub rw sd bd k kr, m = .updateConfig hub rw sd bd k kr →
      sender = c.owner ∧ sd = none ∧ c'.hub = hub.getD c.hub ∧ c'.rewardContract = rw.getD c.rewardContract ∧
      c'.bDenom = bd.getD c.bDenom ∧ c'.keeper = k.getD c.keeper ∧ c'.keeperRate = kr.getD c.keeperRate ∧
      (∀ x, kr = some x → x ≤ D) ∧ c'.owner = c.owner ∧ c'.swapContract = c.swapContract ∧
      c'.oracle = c.oracle ∧ c'.swapDenoms = c.swapDenoms) := by
  have sp := dispExec_spec hx
  cases m with
  | updateConfig hub rw sd bd k kr =>
    obtain ⟨hs, hsd, hk, _, rfl⟩ := sp
    refine ⟨rfl, fun _ _ _ _ _ _ heq => ?_⟩
    cases heq
    exact ⟨hs, hsd, rfl, rfl, rfl, rfl, rfl, hk, rfl, rfl, rfl, rfl⟩
  | swap | dispatch => rw [sp.2]; exact ⟨rfl, fun _ _ _ _ _ _ heq => by cases heq⟩
  | setOwner | acceptOwnership | updateSwapContract | updateSwapDenom | updateOracle =>
    rw [sp.2.2]; exact ⟨rfl, fun _ _ _ _ _ _ heq => by cases heq⟩

/-- A rejected message (of any contract, by any sender, at any depth of the message tree) changes
    nothing: the transaction function returns the state it started from. -/
theorem C20_rejected_changes_nothing (s : Sys) (m : Msg) (e : String)
    (hx : (s.exec m).2 = .error e) : (s.exec m).1 = s := by
  unfold Sys.exec at *
  split <;> simp_all

/-- **Every reachable state.** From any state with the ranges in force (in particular the
    instantiated one: `C20_hub_init_range`, `C17_keeper_rate_le_one`), after any history of any
    length the hub's peg recovery fee and exchange-rate threshold and the dispatcher's keeper rate
    are still at most 1, and the dispatcher's stSei reward denom is the one it was created with. -/
theorem C20_reachable (s : Sys) (l : List Step)
    (h1 : s.hub.fee ≤ D) (h2 : s.hub.thr ≤ D) (h3 : s.disp.keeperRate ≤ D) :
    (s.steps l).hub.fee ≤ D ∧ (s.steps l).hub.thr ≤ D ∧ (s.steps l).disp.keeperRate ≤ D ∧
    (s.steps l).disp.stDenom = s.disp.stDenom := by
  exact steps_inv
    (fun x => x.hub.fee ≤ D ∧ x.hub.thr ≤ D ∧ x.disp.keeperRate ≤ D ∧ x.disp.stDenom = s.disp.stDenom)
    (by
      intro x m x' ms ⟨p1, p2, p3, p4⟩ hx
      cases m with
      | wasm sender target call funds =>
        obtain ⟨s1, hmv, r⟩ := handle_wasm hx
        obtain ⟨_, rfl⟩ := moveFunds_chain hmv
        cases r with
        | hub hm h' hr hs =>
          subst hs
          have st := C20_hub_step_range _ _ _ _ _ _ _ ⟨p1, p2⟩ hr
          exact ⟨st.1, st.2.1, p3, p4⟩
        | disp dm d' hr hs =>
          subst hs
          exact ⟨p1, p2, C17_keeper_rate_le_one.2 _ _ _ _ _ _ _ p3 hr,
            (C20_dispatcher_fields _ _ _ _ _ _ _ hr).1.trans p4⟩
        | bsei _ _ _ hs | stsei _ _ _ hs | reward _ _ _ hs | reg _ _ _ hs | swap _ _ _ _ _ _ _ hs _
        | sink _ hs _ => subst hs; exact ⟨p1, p2, p3, p4⟩
      | _ =>
        have sc := handle_chain_same hx fun _ _ _ _ h => nomatch h
        rw [sc.hub, sc.disp]
        exact ⟨p1, p2, p3, p4⟩)
    (by
      intro x e hp
      cases e with
      | seedLegacy u b a => exact hp
      | slash v n d => simp only [Sys.env]; split <;> exact hp
      | slashUnbonding v n d => simp only [Sys.env]; split <;> exact hp
      | _ => exact hp)
    l s ⟨h1, h2, h3, rfl⟩

/-! Non-vacuity: an in-range instantiate succeeds. -/
example : ∃ h, hubInit 1 0 30 100 D D 1 3 = .ok h := ⟨_, rfl⟩

/-! Non-vacuity of `C20_reachable`: the genesis state. -/
example : genesisSys.hub.fee ≤ D ∧ genesisSys.hub.thr ≤ D ∧ genesisSys.disp.keeperRate ≤ D := by decide

end Krp
