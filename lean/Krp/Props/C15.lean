/-
  C15 — Reward accrual is proportional to holdings and independent of others' actions.
  `owed r a` is what holder `a` can claim, in atomics (whole units = owed / 10^18).
-/
import Krp.Props.C16
namespace Krp
open RewardSt

/-- An index update adds to every holder exactly `balance × ⌊R·10^18 / T⌋` atomics: a function of the
    holder's own balance, the delivered amount R and the total T only — not of the number of other
    holders, their order, or how the total is split among them. -/
theorem C15_accrual_formula (r r' : RewardSt) (self : Addr) (tk dp : Res Addr) (bb : Denom → Nat)
    (sender : Addr) (ms : List Msg) (h : r.Inv) (ht : r.totalBalance ≠ 0)
    (hx : rewardExec r self tk dp bb sender .updateGlobalIndex = .ok (r', ms)) (a : Addr) :
    r'.owed a = r.owed a +
      r.hBal a * fromRatio (bb r.rewardDenom - r.prevRewardBalance) r.totalBalance ∧
    r'.hBal a = r.hBal a := by
  cases rewardExec_route hx with
  | indexIdle _ hz => exact absurd hz ht
  | indexMoved _ _ _ hr =>
    subst hr
    have := h.idxLe a
    simp only [owed]
    generalize fromRatio (bb r.rewardDenom - r.prevRewardBalance) r.totalBalance = k
    refine ⟨?_, trivial⟩
    rw [show r.globalIndex + k - r.hIdx a = (r.globalIndex - r.hIdx a) + k by omega, Nat.add_mul,
      Nat.mul_comm k]
    omega

/-- **In every reachable state, "its balance" is the holder's bSei balance on the token's own
    ledger.** From a wired genesis (C16's hypotheses), after any history of outside non-owner
    transactions and environment events, an index update of the reward contract adds to every
    holder exactly its *bSei token balance* times the reward delivered per bSei in supply —
    whatever transfers, sends (to others or to itself), mints and burns the history contained. -/
theorem C15_accrual_follows_bsei_holdings (s : Sys) (l : List Step)
    (w : Wired s) (wf : s.bsei.WF) (hm : Mirror s.bsei s.reward bseiA rewardA [])
    (hq : ∀ st ∈ l, QuietStep (ownersOf s) st) (hi : s.reward.Inv)
    (self : Addr) (tk dp : Res Addr) (bb : Denom → Nat) (sender : Addr) (r' : RewardSt) (ms : List Msg)
    (hsup : (s.steps l).bsei.supply ≠ 0)
    (hx : rewardExec (s.steps l).reward self tk dp bb sender .updateGlobalIndex = .ok (r', ms)) (a : Addr) :
    r'.owed a = (s.steps l).reward.owed a +
      (s.steps l).bsei.bal a *
        fromRatio (bb (s.steps l).reward.rewardDenom - (s.steps l).reward.prevRewardBalance) (s.steps l).bsei.supply := by
  have mir := C16_reachable s l w wf hm hq
  have inv := C14_reachable s l hi
  have ht : (s.steps l).reward.totalBalance ≠ 0 := by rw [mir.2]; exact hsup
  have f := (C15_accrual_formula _ r' self tk dp bb sender ms inv ht hx a).1
  rw [mir.1 a, mir.2] at f
  exact f

/-- Splitting a holding over two accounts accrues exactly the same atomics in total. -/
theorem C15_split (b1 b2 k : Nat) : (b1 + b2) * k = b1 * k + b2 * k := Nat.add_mul b1 b2 k

/-- …and the whole units paid differ by less than one unit per account. -/
theorem C15_split_units (x y : Nat) : x / D + y / D ≤ (x + y) / D ∧ (x + y) / D ≤ x / D + y / D + 1 := by
  have hD : D = 1000000000000000000 := rfl
  rw [hD]; omega

/-- Mints, burns and transfers (IncreaseBalance / DecreaseBalance) settle first: what every holder
    is owed — the affected one included — is unchanged, so past rewards stay with whoever earned
    them and newly acquired tokens earn nothing from earlier updates. -/
theorem C15_balance_change_keeps_dues (r r' : RewardSt) (self : Addr) (tk dp : Res Addr)
    (bb : Denom → Nat) (sender a amt : Addr) (ms : List Msg) (h : r.Inv) (inc : Bool)
    (hx : rewardExec r self tk dp bb sender (if inc then .increase a amt else .decrease a amt) = .ok (r', ms))
    (x : Addr) :
    r'.owed x = r.owed x ∧ r'.globalIndex = r.globalIndex ∧ r'.hIdx a = r.globalIndex ∧
    (x ≠ a → r'.hBal x = r.hBal x ∧ r'.hIdx x = r.hIdx x ∧ r'.hPend x = r.hPend x) := by
  -- either way `a` is checkpointed at the current index with what it is owed carried as pending
  have settled : ∀ nb tb, r' = { r.setHolder a nb r.globalIndex (r.owed a) with totalBalance := tb } →
      r'.owed x = r.owed x ∧ r'.globalIndex = r.globalIndex ∧ r'.hIdx a = r.globalIndex ∧
      (x ≠ a → r'.hBal x = r.hBal x ∧ r'.hIdx x = r.hIdx x ∧ r'.hPend x = r.hPend x) := by
    intro nb tb hr
    subst hr
    refine ⟨?_, rfl, upd_same _ _ _, fun hne => ⟨if_neg hne, if_neg hne, if_neg hne⟩⟩
    by_cases hxa : x = a
    · subst hxa; simp [owed, setHolder]
    · simp [owed, setHolder, upd, hxa]
  cases inc with
  | true =>
    cases rewardExec_route (m := .increase a amt) hx with
    | increase _ _ acc _ ha hr => rw [accrual_ok r h] at ha; cases ha; exact settled _ _ hr
  | false =>
    cases rewardExec_route (m := .decrease a amt) hx with
    | decrease _ _ acc _ _ ha _ hr => rw [accrual_ok r h] at ha; cases ha; exact settled _ _ hr

/-- A claim by one holder changes nobody else's dues, balance or checkpoint. -/
theorem C15_claim_independent (r r' : RewardSt) (self : Addr) (tk dp : Res Addr) (bb : Denom → Nat)
    (sender : Addr) (rc : Option Addr) (ms : List Msg) (h : r.Inv)
    (hx : rewardExec r self tk dp bb sender (.claim rc) = .ok (r', ms)) (x : Addr) (hne : x ≠ sender) :
    r'.owed x = r.owed x ∧ r'.hBal x = r.hBal x ∧ r'.globalIndex = r.globalIndex := by
  cases rewardExec_route hx with
  | claim _ _ _ _ _ hr => subst hr; simp [owed, setHolder, upd, hne]

/-- Balance changes of two different holders commute: the observable holder records, the total and
    the index are the same in either order (so the order of other holders' operations between two
    index updates is irrelevant). -/
theorem C15_commute (r ra rab rb rba : RewardSt) (self : Addr) (tk dp : Res Addr) (bb : Denom → Nat)
    (s : Addr) (a b x y : Nat) (hab : a ≠ b) (h : r.Inv)
    (h1 : rewardExec r self tk dp bb s (.increase a x) = .ok (ra, []))
    (h2 : rewardExec ra self tk dp bb s (.increase b y) = .ok (rab, []))
    (h3 : rewardExec r self tk dp bb s (.increase b y) = .ok (rb, []))
    (h4 : rewardExec rb self tk dp bb s (.increase a x) = .ok (rba, [])) :
    rab.totalBalance = rba.totalBalance ∧ rab.globalIndex = rba.globalIndex ∧
    ∀ z, rab.hBal z = rba.hBal z ∧ rab.hIdx z = rba.hIdx z ∧ rab.hPend z = rba.hPend z := by
  simp only [rewardExec, accrual_ok r h] at h1 h3
  exc_norm at h1; exc_split at h1
  exc_norm at h3; exc_split at h3
  have hba : b ≠ a := fun e => hab e.symm
  have ha := Nat.not_lt.mpr (h.idxLe a)
  have hb := Nat.not_lt.mpr (h.idxLe b)
  simp only [rewardExec, accrual, setHolder, upd, hab, hba, if_false, ha, hb] at h2 h4
  exc_norm at h2; exc_split at h2
  exc_norm at h4; exc_split at h4
  refine ⟨by simp only []; omega, rfl, fun z => ?_⟩
  by_cases hza : z = a <;> by_cases hzb : z = b <;> simp_all [upd]

/-! Non-vacuity: the invariant used above holds of a concrete state with a holder. -/
def c15Example : RewardSt :=
  { owner := 1, newOwner := 1, hub := 100, rewardDenom := 1, swapContract := 106, swapDenoms := [],
    globalIndex := 2 * D, totalBalance := 3, prevRewardBalance := (6),
    hBal := upd (fun _ => 0) 5 3, hIdx := fun _ => 0, hPend := fun _ => 0, holders := [5] }

example : c15Example.Inv := by
  refine ⟨?_, ?_, ?_, ?_, ?_⟩ <;> simp [c15Example, owed, upd, sumOn, D]

end Krp
