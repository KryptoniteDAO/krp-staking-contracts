/-
  C14 — bSei reward pool is solvent and complete.

  `owed r a` = (global_index − index_a)·balance_a + pending_a  (atomics, exact because balances
  are integers).  Invariant `RewardSt.Inv`: Σ_holders owed ≤ prev_reward_balance·10^18, the holder
  balances sum to total_balance, no holder index is ahead of the global index.
-/
import Krp.Lemmas.Wiring
import Krp.Lemmas.Bank
import Krp.Lemmas.Unsent
namespace Krp
open RewardSt

/-- a freshly instantiated reward contract satisfies the invariant -/
theorem C14_inv_init (sender hub : Addr) (denom : Denom) (swap : Addr) (ds : List Denom) :
    (rewardInit sender hub denom swap ds).Inv := by
  constructor <;> simp [rewardInit]

private theorem update_sum (r : RewardSt) (h : r.Inv) (k : Nat) :
    sumOn r.holders (fun a => (r.globalIndex + k - r.hIdx a) * r.hBal a + r.hPend a) =
      sumOn r.holders r.owed + k * r.totalBalance := by
  rw [← h.total, Nat.mul_comm k, ← sumOn_mul_right, ← sumOn_add]
  apply sumOn_congr
  intro a _
  have := h.idxLe a
  simp only [owed]
  rw [show r.globalIndex + k - r.hIdx a = (r.globalIndex - r.hIdx a) + k by omega, Nat.add_mul,
    Nat.mul_comm k]
  omega

/-- every successful message of every sender keeps the invariant: the sum of what holders are owed
    never exceeds the recorded reward balance, whatever the interleaving of index updates, mints,
    burns, transfers (increase/decrease) and claims. -/
theorem C14_inv_step (r r' : RewardSt) (self : Addr) (tk dp : Res Addr) (bb : Denom → Nat)
    (sender : Addr) (m : RewMsg) (ms : List Msg) (h : r.Inv)
    (hx : rewardExec r self tk dp bb sender m = .ok (r', ms)) : r'.Inv := by
  cases rewardExec_route hx with
  | claim rc acc ha _ hle hr _ =>
    rw [accrual_ok r h] at ha
    cases ha
    subst hr
    exact claim_inv r h sender hle
  | updateConfig _ _ _ _ hr _ | setOwner _ _ hr _ | acceptOwnership _ hr _ | updateSwapDenom _ _ _ hr _ =>
    subst hr; exact ⟨h.nodup, h.zero, h.idxLe, h.total, h.solvent⟩
  | swapToRewardDenom _ hr _ | indexIdle _ _ hr _ => subst hr; exact h
  | indexMoved _ _ hle hr _ =>
    subst hr
    refine ⟨h.nodup, h.zero, fun a => Nat.le_trans (h.idxLe a) (Nat.le_add_right _ _), h.total, ?_⟩
    show sumOn r.holders (fun a => (r.globalIndex + fromRatio (bb r.rewardDenom - r.prevRewardBalance) r.totalBalance - r.hIdx a) * r.hBal a + r.hPend a) ≤ bb r.rewardDenom * D
    rw [update_sum r h]
    have hs := h.solvent
    have : fromRatio (bb r.rewardDenom - r.prevRewardBalance) r.totalBalance * r.totalBalance
        ≤ (bb r.rewardDenom - r.prevRewardBalance) * D := Nat.div_mul_le_self _ _
    have : bb r.rewardDenom * D = r.prevRewardBalance * D + (bb r.rewardDenom - r.prevRewardBalance) * D := by
      rw [← Nat.add_mul]; congr 1; omega
    omega
  | increase a amt acc _ ha hr _ =>
    rw [accrual_ok r h] at ha
    cases ha
    subst hr
    exact settle_inv r h a (r.hBal a + amt) (r.totalBalance + amt) (by omega)
  | decrease a amt acc _ hb ha htot hr _ =>
    rw [accrual_ok r h] at ha
    cases ha
    subst hr
    exact settle_inv r h a (r.hBal a - amt) (r.totalBalance - amt) (by omega)

/-- ClaimRewards never fails for lack of funds: whenever the caller is owed at least one whole
    unit the claim succeeds, pays exactly the whole-unit part to the recipient, keeps the fraction,
    and lowers the recorded balance by exactly what it pays. -/
theorem C14_claim_pays (r : RewardSt) (self : Addr) (tk dp : Res Addr) (bb : Denom → Nat)
    (sender : Addr) (rc : Option Addr) (h : r.Inv) (hpos : D ≤ r.owed sender) :
    ∃ r', rewardExec r self tk dp bb sender (.claim rc) =
        .ok (r', [Msg.bankSend self (rc.getD sender) r.rewardDenom (r.owed sender / D)]) ∧
      r'.hPend sender = r.owed sender % D ∧
      r'.prevRewardBalance + r.owed sender / D = r.prevRewardBalance ∧
      r'.hBal sender = r.hBal sender := by
  have hsum := owed_le_sum r h sender
  have hsol := h.solvent
  have hq : 0 < r.owed sender / D := Nat.div_pos hpos D_pos
  have hle : r.owed sender / D ≤ r.prevRewardBalance := by
    have : r.owed sender / D * D ≤ r.owed sender := Nat.div_mul_le_self _ _
    exact Nat.le_of_mul_le_mul_right (by omega) D_pos
  simp only [rewardExec, accrual_ok r h]
  simp only [bind, Except.bind, pure, Except.pure, throw, throwThe, MonadExceptOf.throw, owed] at *
  rw [if_neg (by omega), if_neg (by omega)]
  refine ⟨_, rfl, ?_, ?_, ?_⟩
  · simp [setHolder]
  · simp only [setHolder]; omega
  · simp [setHolder]

/-- a claim worth less than one unit is refused and changes nothing (the fraction stays) -/
theorem C14_claim_below_unit (r : RewardSt) (self : Addr) (tk dp : Res Addr) (bb : Denom → Nat)
    (sender : Addr) (rc : Option Addr) (h : r.Inv) (hlt : r.owed sender < D) :
    ∃ e, rewardExec r self tk dp bb sender (.claim rc) = .error e := by
  simp only [rewardExec, accrual_ok r h, owed] at *
  simp only [bind, Except.bind, pure, Except.pure, throw, throwThe, MonadExceptOf.throw]
  rw [if_pos (Nat.div_eq_of_lt hlt)]
  exact ⟨_, rfl⟩

/-- **With no bSei holder an index update records nothing.** What has arrived stays unrecorded — the
    whole state of the reward contract is what it was — so that the first update with holders
    distributes it: the step of that update is (bank balance − recorded balance) per bSei, and the
    recorded balance has not moved. -/
theorem C14_update_without_holders_records_nothing (r r' : RewardSt) (self : Addr) (tk dp : Res Addr)
    (bb : Denom → Nat) (sender : Addr) (ms : List Msg) (hz : r.totalBalance = 0)
    (hx : rewardExec r self tk dp bb sender .updateGlobalIndex = .ok (r', ms)) :
    r' = r ∧ ms = [] := by
  cases rewardExec_route hx with
  | indexIdle _ _ hr hm => exact ⟨hr, hm⟩
  | indexMoved _ hnz => exact absurd hz hnz

/-- an index update records exactly the contract's bank balance, so the recorded balance never
    exceeds the actual one; with no holders it records nothing and loses nothing -/
theorem C14_update_records_bank (r r' : RewardSt) (self : Addr) (tk dp : Res Addr) (bb : Denom → Nat)
    (sender : Addr) (ms : List Msg)
    (hx : rewardExec r self tk dp bb sender .updateGlobalIndex = .ok (r', ms)) :
    ms = [] ∧ ((r.totalBalance = 0 ∧ r' = r) ∨
      (r.totalBalance ≠ 0 ∧ r'.prevRewardBalance = bb r.rewardDenom ∧ r.prevRewardBalance ≤ bb r.rewardDenom)) := by
  cases rewardExec_route hx with
  | indexIdle _ hz hr hm => exact ⟨hm, .inl ⟨hz, hr⟩⟩
  | indexMoved _ hz hle hr hm => subst hr; exact ⟨hm, .inr ⟨hz, rfl, hle⟩⟩

/-- completeness: an index update strands less than `total_balance` atomics (below one base unit
    inside the envelope, where total_balance ≤ 10^18) -/
theorem C14_update_dust (r r' : RewardSt) (self : Addr) (tk dp : Res Addr) (bb : Denom → Nat)
    (sender : Addr) (ms : List Msg) (h : r.Inv)
    (hx : rewardExec r self tk dp bb sender .updateGlobalIndex = .ok (r', ms)) :
    r'.prevRewardBalance * D + sumOn r.holders r.owed <
      sumOn r'.holders r'.owed + r.prevRewardBalance * D + r.totalBalance + 1 := by
  cases rewardExec_route hx with
  | indexIdle _ _ hr _ => subst hr; omega
  | indexMoved _ hz hle hr _ =>
    subst hr
    show bb r.rewardDenom * D + sumOn r.holders r.owed <
      sumOn r.holders (fun a => (r.globalIndex + fromRatio (bb r.rewardDenom - r.prevRewardBalance) r.totalBalance - r.hIdx a) * r.hBal a + r.hPend a) + r.prevRewardBalance * D + r.totalBalance + 1
    rw [update_sum r h]
    have hpos : 0 < r.totalBalance := Nat.pos_of_ne_zero hz
    have hlt := Nat.lt_div_mul_add (a := (bb r.rewardDenom - r.prevRewardBalance) * D) hpos
    have : bb r.rewardDenom * D = r.prevRewardBalance * D + (bb r.rewardDenom - r.prevRewardBalance) * D := by
      rw [← Nat.add_mul]; congr 1; omega
    unfold fromRatio
    omega

/-! Non-vacuity: a concrete state satisfying the invariant with a claimable holder. -/
def c14Example : RewardSt :=
  { owner := 1, newOwner := 1, hub := 100, rewardDenom := 1, swapContract := 106, swapDenoms := [],
    globalIndex := 2 * D, totalBalance := 3, prevRewardBalance := 6,
    hBal := upd (fun _ => 0) 5 3, hIdx := fun _ => 0, hPend := fun _ => 0, holders := [5] }

example : c14Example.Inv ∧ D ≤ c14Example.owed 5 := by
  refine ⟨⟨?_, ?_, ?_, ?_, ?_⟩, ?_⟩ <;> simp [c14Example, owed, upd, sumOn, D]

/-- **Every reachable state.** From any state in which the reward contract's invariant holds (the
    instantiated contract: `C14_inv_init`), after any history of the composed system — token
    transfers, mints and burns mirrored by the bSei token, index updates through the dispatcher,
    claims, failed transactions, anything else — the sum of what all holders are owed never exceeds
    the recorded reward balance, the recorded total equals the sum of mirrored balances, and no
    holder's checkpoint is ahead of the global index. -/
theorem C14_reachable (s : Sys) (l : List Step) (h : s.reward.Inv) : (s.steps l).reward.Inv := by
  exact steps_inv (fun x => x.reward.Inv)
    (by
      intro x m x' ms hp hx
      cases handle_touch x x' m ms hx with
      | none h _ _ _ => rw [h.reward]; exact hp
      | hub _ _ _ _ _ _ _ _ _ _ _ r _ _ | bsei _ _ _ _ _ _ _ _ _ r _ _ | stsei _ _ _ _ _ _ _ _ r _ _
      | disp _ _ _ _ _ _ _ _ _ _ _ r _ | reg _ _ _ _ _ _ _ _ _ _ _ _ r _ => rw [r]; exact hp
      | reward _ _ _ _ _ _ _ _ hx' => exact C14_inv_step _ _ _ _ _ _ _ _ _ hp hx')
    (fun x e hp => (env_ledgers x e).2.2 ▸ hp)
    l s h

example : genesisSys.reward.Inv := C14_inv_init 1 hubA 1 swapA [0, 1]

/-! ### The recorded balance is really there: reward contract vs. bank, over every history

  `prev_reward_balance` is what claims are paid from.  Invariant carried through the message queue:

      recorded balance + reward coins about to leave the contract (its own pending messages)
        ≤ the contract's bank balance in the reward denom

  Only messages *sent by* the reward contract can lower its bank balance (`handle_bank_ge`); it
  emits them at the front of the queue, so none is pending when the next index update records the
  bank balance. -/

/-- reward-denom coins message `m` takes out of the reward contract's account -/
def outflow (rd : Denom) : Msg → Nat
  | .bankSend src _ d amt => if src = rewardA ∧ d = rd then amt else 0
  | .wasm s _ _ f => if s = rewardA then fundsOf rd f else 0
  | _ => 0

def outflowAll (rd : Denom) (q : List Msg) : Nat := (q.map (outflow rd)).sum

/-- what the reward contract, and the swap stub answering it, put in the queue -/
def isRw : Msg → Bool
  | .bankSend src _ _ _ => src == rewardA || src == swapA
  | .wasm s _ (.swapDenom _ _ _ _) _ => s == rewardA
  | _ => false

theorem outflowAll_append (rd : Denom) (x y : List Msg) :
    outflowAll rd (x ++ y) = outflowAll rd x + outflowAll rd y := by simp [outflowAll]

theorem outflow_not_from (rd : Denom) (m : Msg) (h : m.sentFrom ≠ rewardA) : outflow rd m = 0 := by
  cases m with
  | bankSend src dst d amt => exact if_neg fun e => h e.1
  | wasm a b c f => exact if_neg h
  | _ => rfl

theorem outflowAll_not_from (rd : Denom) (q : List Msg) (h : ∀ x ∈ q, x.sentFrom ≠ rewardA) :
    outflowAll rd q = 0 := by
  induction q with
  | nil => rfl
  | cons m ms ih =>
    have := outflow_not_from rd m (h m (List.mem_cons_self ..))
    have r := ih (fun x hx => h x (List.mem_cons_of_mem _ hx))
    simp only [outflowAll, List.map_cons, List.sum_cons] at r ⊢
    omega

theorem reward_fund_step (r r' : RewardSt) (tok dsp : Res Addr) (bb : Denom → Nat) (sender : Addr)
    (m : RewMsg) (ms : List Msg) (hns : m ≠ .swapToRewardDenom)
    (hB : r.prevRewardBalance ≤ bb r.rewardDenom)
    (hx : rewardExec r rewardA tok dsp bb sender m = .ok (r', ms)) :
    (∀ x ∈ ms, isRw x = true) ∧ r'.prevRewardBalance + outflowAll r.rewardDenom ms ≤ bb r.rewardDenom := by
  cases rewardExec_route hx with
  | claim rc acc _ _ hle hr hm =>
    subst hr hm
    refine ⟨List.forall_mem_singleton.mpr rfl, ?_⟩
    simp only [outflowAll, List.map_cons, List.map_nil, List.sum_cons, List.sum_nil, outflow, and_self, if_true,
      RewardSt.setHolder]
    omega
  | swapToRewardDenom => exact absurd rfl hns
  | indexMoved _ _ _ hr hm => subst hr hm; exact ⟨fun _ h => (nomatch h), Nat.le_refl _⟩
  | updateConfig _ _ _ _ hr hm | setOwner _ _ hr hm | acceptOwnership _ hr hm | indexIdle _ _ hr hm
  | increase _ _ _ _ _ hr hm | decrease _ _ _ _ _ _ _ hr hm | updateSwapDenom _ _ _ hr hm =>
    subst hr hm; exact ⟨fun _ h => (nomatch h), hB⟩

/-- `o` = (owner, nominee) of the reward contract, `rd` its reward denom -/
structure FundInv (o : Addr × Addr) (rd : Denom) (s : Sys) (q : List Msg) : Prop where
  owner : s.reward.owner = o.1
  nominee : s.reward.newOwner = o.2
  ext1 : External o.1
  ext2 : External o.2
  denom : s.reward.rewardDenom = rd
  noSwap : ∀ m ∈ q, isRwSwap m = false
  senders : ∀ m ∈ q, ∀ a b c d, m = .wasm a b c d → a ≠ o.1 ∧ a ≠ o.2
  split : ∃ A rest, q = A ++ rest ∧ (∀ x ∈ A, isRw x = true) ∧ (∀ x ∈ rest, x.sentFrom ≠ rewardA) ∧
    s.reward.prevRewardBalance + outflowAll rd A ≤ s.chain.bank rewardA rd

theorem FundInv.drained {o : Addr × Addr} {rd : Denom} {s : Sys} (h : FundInv o rd s []) :
    s.reward.prevRewardBalance ≤ s.chain.bank rewardA s.reward.rewardDenom := by
  obtain ⟨A, rest, hq, _, _, hle⟩ := h.split
  have : A = [] := by
    cases A with
    | nil => rfl
    | cons p t => simp only [List.cons_append] at hq; cases hq
  subst this
  rw [h.denom]
  simpa [outflowAll] using hle

theorem internal_ne_ext {a x : Addr} (ha : a ∈ internal) (hx : External x) : a ≠ x :=
  fun h => hx (h ▸ ha)

theorem Emits.from_internal {m x : Msg} (h : Emits m x) : x.sentFrom ∈ internal := by
  cases h with
  | swap => show swapA ∈ internal; decide
  | hub o | bsei o | stsei o | reward o | disp o | reg o => rw [o.sentFrom]; decide

theorem Emits.isRw {m x : Msg} (h : Emits m x) (hm : isRw m = true) : isRw x = true := by
  cases h with
  | swap => rfl
  | hub | bsei | stsei | reward | disp | reg => cases hm

theorem handle_outflow {s s' : Sys} {m : Msg} {ms : List Msg} (hx : s.handle m = .ok (s', ms))
    (hm : isRw m = true) (rd : Denom) : s.chain.bank rewardA rd ≤ s'.chain.bank rewardA rd + outflow rd m := by
  cases m with
  | bankSend src dst d amt =>
    by_cases hs : src = rewardA ∧ d = rd
    · obtain ⟨rfl, rfl⟩ := hs
      rw [outflow, if_pos ⟨rfl, rfl⟩]
      exact (handle_bank_out s s' _ ms hx rewardA d).1 dst amt rfl
    · rw [outflow, if_neg hs]
      by_cases hsrc : src = rewardA
      · subst hsrc
        exact (handle_bank_out s s' _ ms hx rewardA rd).2.1 dst d amt rfl fun e => hs ⟨rfl, e⟩
      · exact handle_bank_ge s s' _ ms hx rewardA rd hsrc
  | wasm a b c f =>
    by_cases ha : a = rewardA
    · subst ha
      rw [outflow, if_pos rfl]
      exact (handle_bank_out s s' _ ms hx rewardA rd).2.2 b c f rfl
    · rw [outflow, if_neg ha]
      exact handle_bank_ge s s' _ ms hx rewardA rd ha
  | _ => cases hm

theorem FundInv.step (o : Addr × Addr) (rd : Denom) (s s' : Sys) (m : Msg) (rest0 subs : List Msg)
    (inv : FundInv o rd s (m :: rest0)) (hx : s.handle m = .ok (s', subs)) :
    FundInv o rd s' (subs ++ rest0) := by
  obtain ⟨A, rest, hq, hA, hrest, hle⟩ := inv.split
  have hsnd := inv.senders m (List.mem_cons_self ..)
  have base : ∀ (A' rest' : List Msg), subs ++ rest0 = A' ++ rest' → (∀ x ∈ A', isRw x = true) →
      (∀ x ∈ rest', x.sentFrom ≠ rewardA) →
      s'.reward.owner = s.reward.owner ∧ s'.reward.newOwner = s.reward.newOwner ∧
        s'.reward.rewardDenom = s.reward.rewardDenom →
      s'.reward.prevRewardBalance + outflowAll rd A' ≤ s'.chain.bank rewardA rd →
      FundInv o rd s' (subs ++ rest0) := by
    intro A' rest' e1 e2 e3 cfg e4
    refine ⟨cfg.1.trans inv.owner, cfg.2.1.trans inv.nominee, inv.ext1, inv.ext2, cfg.2.2.trans inv.denom,
      ?_, ?_, A', rest', e1, e2, e3, e4⟩
    · intro x hx'
      rcases List.mem_append.mp hx' with h | h
      · exact handle_noSwap s s' m subs hx x h
      · exact inv.noSwap x (List.mem_cons_of_mem _ h)
    · -- what is emitted is sent by the handling contract, an internal address
      intro x hx' a b c d hxe
      rcases List.mem_append.mp hx' with h | h
      · have hin := (handle_emits hx x h).from_internal
        rw [hxe] at hin
        exact ⟨internal_ne_ext hin inv.ext1, internal_ne_ext hin inv.ext2⟩
      · exact inv.senders x (List.mem_cons_of_mem _ h) a b c d hxe
  -- no call of the reward contract: it keeps its state and emits nothing
  have other : s'.reward = s.reward → (∀ x ∈ subs, x.sentFrom ≠ rewardA) → FundInv o rd s' (subs ++ rest0) := by
    intro hrw hsub
    have cfg : s'.reward.owner = s.reward.owner ∧ s'.reward.newOwner = s.reward.newOwner ∧
        s'.reward.rewardDenom = s.reward.rewardDenom := by rw [hrw]; exact ⟨rfl, rfl, rfl⟩
    cases A with
    | cons p A' =>
      -- the head is one of the reward contract's own pending messages (or the stub's answer)
      obtain ⟨rfl, h2⟩ := List.cons.inj hq
      have hm := hA _ (List.mem_cons_self ..)
      have out := handle_outflow hx hm rd
      refine base (subs ++ A') rest (h2 ▸ (List.append_assoc subs A' rest).symm) ?_ hrest cfg ?_
      · intro x hx'
        rcases List.mem_append.mp hx' with h | h
        · exact (handle_emits hx x h).isRw hm
        · exact hA x (List.mem_cons_of_mem _ h)
      · rw [hrw, outflowAll_append, outflowAll_not_from rd subs hsub]
        simp only [outflowAll, List.map_cons, List.sum_cons] at hle ⊢
        omega
    | nil =>
      -- nothing of the reward contract's is pending
      obtain rfl : rest = m :: rest0 := hq.symm
      have hmr : m.sentFrom ≠ rewardA := hrest m (List.mem_cons_self ..)
      have hB : s.reward.prevRewardBalance ≤ s.chain.bank rewardA rd := hle
      have bank' := handle_bank_ge s s' m subs hx rewardA rd hmr
      refine base [] (subs ++ rest0) rfl (fun _ h => nomatch h) ?_ cfg ?_
      · intro x hx'
        rcases List.mem_append.mp hx' with h | h
        · exact hsub x h
        · exact hrest x (List.mem_cons_of_mem _ h)
      · rw [hrw]
        show _ + 0 ≤ _
        omega
  have sent := handle_sentBy s s' m subs hx
  cases handle_touch s s' m subs hx with
  | none h _ hs _ => exact other h.reward (fun x hx' => by rw [hs x hx']; decide)
  | hub _ _ _ _ heq _ _ _ _ _ _ r _ _ | bsei _ _ _ _ heq _ _ _ _ r _ _ | stsei _ _ _ _ heq _ _ _ r _ _
  | disp _ _ _ _ heq _ _ _ _ _ _ r _ | reg _ _ _ _ heq _ _ _ _ _ _ _ r _ =>
    exact other r (fun x hx' => by rw [sent.1 _ _ _ _ heq x hx']; decide)
  | reward s1 sender funds rm heq _ hmv hch hx' =>
    -- a call of the reward contract: none of its own messages is pending
    subst heq
    cases A with
    | cons p A' =>
      obtain ⟨rfl, _⟩ := List.cons.inj hq
      cases hA _ (List.mem_cons_self ..)
    | nil =>
      obtain rfl : rest = _ :: rest0 := hq.symm
      have hmr : sender ≠ rewardA := hrest _ (List.mem_cons_self ..)
      have hr0 := fun x (h : x ∈ rest0) => hrest x (List.mem_cons_of_mem _ h)
      have hB : s.reward.prevRewardBalance ≤ s.chain.bank rewardA rd := hle
      -- the handler sees the bank balance after the attached funds arrived
      have hs1 := moveFunds_bank sender rewardA funds s s1 hmv rewardA rd
      rw [if_neg (Ne.symm hmr)] at hs1
      have hnsw : rm ≠ .swapToRewardDenom := by
        intro h
        have := inv.noSwap _ (List.mem_cons_self ..)
        rw [h] at this; cases this
      have hs := hsnd _ _ _ _ rfl
      have step := reward_fund_step s.reward s'.reward _ _ _ sender rm subs hnsw (by rw [inv.denom]; omega) hx'
      rw [inv.denom, ← hch] at step
      have c := rewardExec_quiet hx' (inv.owner ▸ hs.1) (inv.nominee ▸ hs.2)
      exact base subs rest0 rfl step.1 hr0 ⟨c.owner, c.newOwner, c.rewardDenom⟩ step.2

theorem FundInv.idle {o : Addr × Addr} {rd : Denom} {s : Sys} (h1 : s.reward.owner = o.1)
    (h2 : s.reward.newOwner = o.2) (e1 : External o.1) (e2 : External o.2) (hd : s.reward.rewardDenom = rd)
    (hB : s.reward.prevRewardBalance ≤ s.chain.bank rewardA rd) : FundInv o rd s [] :=
  ⟨h1, h2, e1, e2, hd, fun _ h => (nomatch h), fun _ h => (nomatch h), [], [], rfl, fun _ h => (nomatch h),
    fun _ h => (nomatch h), hB⟩

theorem env_bank_ge (s : Sys) (e : EnvOp) (a : Addr) (d : Denom) (ha : a ≠ hubA) :
    (s.env e).chain.bank a d ≥ s.chain.bank a d := by
  cases e with
  | advance dt => simp [Sys.env, Sys.setBank, upd, ha]
  | slash v n dd => simp only [Sys.env]; split <;> exact Nat.le_refl _
  | slashUnbonding v n dd => simp only [Sys.env]; split <;> exact Nat.le_refl _
  | donate x dd amt =>
    simp only [Sys.env, Sys.setBank, upd]
    by_cases h1 : a = x <;> by_cases h2 : d = dd <;> simp_all
  | _ => exact Nat.le_refl _

/-- a history step allowed under E3 for this theorem: an environment event, or a top-level contract
    call by an outside account that is neither the reward contract's owner nor its nominee -/
def RewQuiet (o : Addr × Addr) : Step → Prop
  | .env _ => True
  | .tx m => ∃ a b c d, m = .wasm a b c d ∧ External a ∧ a ≠ o.1 ∧ a ≠ o.2 ∧ isRwSwap m = false

/-- **Every reachable state: the recorded reward balance is in the bank.** From any state in which
    the reward contract's recorded balance is covered by its bank balance in the reward denom (owner
    and nominee outside accounts), after any history of outside, non-owner transactions with any
    environment events interleaved, it still is. With `C14_reachable` (Σ owed ≤ recorded balance)
    this is: what holders can claim is always really there. -/
theorem C14_funded (s : Sys) (l : List Step)
    (e1 : External s.reward.owner) (e2 : External s.reward.newOwner)
    (hB : s.reward.prevRewardBalance ≤ s.chain.bank rewardA s.reward.rewardDenom)
    (hq : ∀ st ∈ l, RewQuiet (s.reward.owner, s.reward.newOwner) st) :
    (s.steps l).reward.prevRewardBalance ≤ (s.steps l).chain.bank rewardA (s.steps l).reward.rewardDenom := by
  refine (steps_inv2 (fun x => FundInv (s.reward.owner, s.reward.newOwner) s.reward.rewardDenom x [])
    (FundInv (s.reward.owner, s.reward.newOwner) s.reward.rewardDenom)
    (fun _ st => RewQuiet (s.reward.owner, s.reward.newOwner) st)
    (fun s0 m0 rest0 s1 subs0 => FundInv.step _ _ s0 s1 m0 rest0 subs0) ?_ (fun _ h => h) ?_ l s
    (FundInv.idle rfl rfl e1 e2 rfl hB)
    (fun pre st post he => hq st (he ▸ List.mem_append_right _ (List.mem_cons_self ..)))).drained
  · -- a transaction starts with its top-level message, sent by an outside account
    intro x m inv ⟨a, b, c, d, hm', hext, hn1, hn2, hnsw⟩
    have hB' := inv.drained
    rw [inv.denom] at hB'
    refine ⟨inv.owner, inv.nominee, inv.ext1, inv.ext2, inv.denom, ?_, ?_, [], [m], rfl, fun _ h => (nomatch h), ?_, hB'⟩
    · intro x0 hx0
      cases List.mem_singleton.mp hx0
      exact hnsw
    · intro m1 hm1 a1 b1 c1 d1 he1
      cases List.mem_singleton.mp hm1
      cases hm'.symm.trans he1
      exact ⟨hn1, hn2⟩
    · intro x0 hx0 h
      cases List.mem_singleton.mp hx0
      rw [hm'] at h
      exact hext (show a ∈ internal by rw [show a = rewardA from h]; decide)
  · -- environment events do not take the reward contract's coins
    intro x e inv _
    have hB' := inv.drained
    rw [inv.denom] at hB'
    have bge := env_bank_ge x e rewardA s.reward.rewardDenom (by decide)
    have rsame := (env_ledgers x e).2.2
    exact FundInv.idle (rsame ▸ inv.owner) (rsame ▸ inv.nominee) inv.ext1 inv.ext2 (rsame ▸ inv.denom)
      (by rw [rsame]; omega)

/-- Non-vacuity: the genesis state of the corpus meets the premises. -/
example : External genesisSys.reward.owner ∧ External genesisSys.reward.newOwner ∧
    genesisSys.reward.prevRewardBalance ≤ genesisSys.chain.bank rewardA genesisSys.reward.rewardDenom := by
  refine ⟨?_, ?_, ?_⟩ <;> (try unfold External) <;> decide

/-- **ClaimRewards never fails for lack of funds — as a whole transaction.** In any state where
    the reward contract's invariant holds and its recorded balance is in the bank (every reachable
    state: `C14_reachable`, `C14_funded`), a holder who is owed at least one whole unit claims
    successfully: the handler accepts, the bank transfer it emits goes through, and exactly
    floor(owed) of the reward denom reaches the holder. -/
theorem C14_claim_tx_succeeds (s : Sys) (sender : Addr) (inv : s.reward.Inv)
    (hB : s.reward.prevRewardBalance ≤ s.chain.bank rewardA s.reward.rewardDenom)
    (hpos : D ≤ s.reward.owed sender) :
    ∃ s', s.exec (.wasm sender rewardA (.reward (.claim none)) []) = (s', .ok ()) ∧
      s'.chain.bank sender s.reward.rewardDenom + (if sender = rewardA then s.reward.owed sender / D else 0) =
        s.chain.bank sender s.reward.rewardDenom + s.reward.owed sender / D := by
  obtain ⟨r', hcl, _, hprev, _⟩ := C14_claim_pays s.reward rewardA (s.hubTokenOf s.reward.hub)
    (s.hubDispatcherOf s.reward.hub) (s.chain.bank rewardA) sender none inv hpos
  have hq : 0 < s.reward.owed sender / D := Nat.div_pos hpos D_pos
  have h1 : s.handle (.wasm sender rewardA (.reward (.claim none)) []) =
      .ok ({ s with reward := r' }, [Msg.bankSend rewardA sender s.reward.rewardDenom (s.reward.owed sender / D)]) := by
    simp only [Sys.handle, Sys.moveFunds, bind, Except.bind, pure, Except.pure]
    rw [if_neg (by decide), if_neg (by decide), if_neg (by decide), if_pos trivial]
    simp only [hcl, Option.getD]
  have h2 := handle_bankSend_ok (s := { s with reward := r' }) (src := rewardA) (dst := sender)
    (d := s.reward.rewardDenom) (amt := s.reward.owed sender / D) (by omega)
    (by show _ ≤ s.chain.bank rewardA s.reward.rewardDenom; omega)
  have hrun : Sys.run 400 s [_] = .ok _ := (run_cons h1).trans (run_cons h2)
  refine ⟨_, by unfold Sys.exec; rw [hrun], ?_⟩
  simp only [Sys.setBank, upd_same]
  by_cases h : sender = rewardA
  · subst h; simp only [upd_same, if_true]; omega
  · simp only [upd, h, if_false, Nat.add_zero]

end Krp
