/-
  C08 — Unbonding time-lock holds and the batch lifecycle only moves forward.
-/
import Krp.Props.C07
namespace Krp
open HubSt

/-- An unbond undelegates the open batch only when more than one epoch period has passed since the
    previous undelegation; otherwise the history is not touched at all. When it does, the new entry
    carries the current time and `last_unbonded_time` moves to it. -/
theorem C08_undelegation_only_after_epoch (h h' : HubSt) (e : HubEnv) (amount : Nat) (user : Addr)
    (ms : List Msg) (bsei : Bool)
    (hx : (if bsei then h.unbondB e amount user else h.unbondS e amount user) = .ok (h', ms)) :
    ∃ st, h.actualState e = .ok st ∧ st.hist = h.hist ∧ st.batchId = h.batchId ∧
      st.lastUnbondedTime = h.lastUnbondedTime ∧ st.epoch = h.epoch ∧
      ((e.now - h.lastUnbondedTime > h.epoch ∧ h'.batchId = h.batchId + 1 ∧ h'.lastUnbondedTime = e.now ∧
          (∃ x, h'.hist h.batchId = some x ∧ x.time = e.now ∧ x.released = false) ∧
          ∀ i, i ≠ h.batchId → h'.hist i = h.hist i) ∨
       (¬ e.now - h.lastUnbondedTime > h.epoch ∧ h'.hist = h.hist ∧ h'.batchId = h.batchId ∧
          h'.lastUnbondedTime = h.lastUnbondedTime)) := by
  -- either token: the request is recorded in `h0`, which has the history of `st`; then the batch closes or not
  have pre : ∃ st h0, h.actualState e = .ok st ∧ UnbShape st h0 ∧
      ((e.now - st.lastUnbondedTime > st.epoch ∧ ∃ um, h0.processUndelegations e = .ok (h', um)) ∨
       (¬ e.now - st.lastUnbondedTime > st.epoch ∧ h' = h0)) := by
    cases bsei <;> simp only [Bool.false_eq_true, if_false, if_true] at hx
    · obtain ⟨st, tok, hst, _, _, hcase⟩ := unbondS_spec h h' e amount user ms hx
      exact ⟨st, _, hst, (afterUnbond_shape st user 0 amount 0).2,
        hcase.imp (fun ⟨hep, um, hp, _⟩ => ⟨hep, um, hp⟩) (fun ⟨hep, hh, _⟩ => ⟨hep, hh⟩)⟩
    · obtain ⟨st, supply, withFee, tok, hst, _, _, _, _, _, hcase⟩ := unbondB_spec h h' e amount user ms hx
      exact ⟨st, _, hst, (afterUnbond_shape st user supply amount withFee).1,
        hcase.imp (fun ⟨hep, um, hp, _⟩ => ⟨hep, um, hp⟩) (fun ⟨hep, hh, _⟩ => ⟨hep, hh⟩)⟩
  obtain ⟨st, h0, hst, sh, hcase⟩ := pre
  have sb := (actualState_spec h st e hst).1
  have hb : h0.batchId = h.batchId := sh.batchId.trans sb.batchId
  have hh0 : h0.hist = h.hist := sh.hist.trans sb.hist
  refine ⟨st, hst, sb.hist, sb.batchId, sb.lastUnb, sb.epoch, ?_⟩
  rw [sb.lastUnb, sb.epoch] at hcase
  rcases hcase with ⟨hep, um, hp⟩ | ⟨hep, rfl⟩
  · obtain ⟨_, _, _, _, _, _, _, _, _, bid, lu, hh, _⟩ := processUndelegations_spec _ _ _ _ hp
    refine Or.inl ⟨hep, bid.trans (by rw [hb]), lu, ?_, fun i hi => ?_⟩
    · rw [hh, hb, upd_same]; exact ⟨_, rfl, rfl, rfl⟩
    · rw [hh, hb, upd_other _ _ _ _ hi, hh0]
  · exact Or.inr ⟨hep, hh0, hb, sh.lastUnb.trans sb.lastUnb⟩

/-- Batches are numbered consecutively and each is undelegated at most once: an undelegation writes
    the slot of the open batch id — which was empty, because history exists only below it — and
    opens the next id. -/
theorem C08_consecutive_written_once (h h' : HubSt) (e : HubEnv) (ms : List Msg) (inv : ClaimInv h)
    (hx : h.processUndelegations e = .ok (h', ms)) :
    h.hist h.batchId = none ∧ h'.hist h.batchId ≠ none ∧ h'.batchId = h.batchId + 1 ∧
    (∀ i, h'.hist i ≠ none → i < h'.batchId) := by
  have sp := processUndelegations_spec h h' e ms hx
  have inv' := C07_undelegation_keeps_claims h h' e ms inv hx
  refine ⟨?_, ?_, sp.2.2.2.2.2.2.2.2.2.1, inv'.histBound⟩
  · cases hh : h.hist h.batchId with
    | none => rfl
    | some x => have := inv.histBound h.batchId (by rw [hh]; simp); omega
  · rw [sp.2.2.2.2.2.2.2.2.2.2.2.1]; simp

/-- No batch is released — hence no coin is paid for it — before the unbonding period has fully
    elapsed since its undelegation; a released entry never changes again; unreleased entries keep
    their time, amounts and applied rates. (`cutoff` = now − unbonding_period in WithdrawUnbonded.) -/
theorem C08_release_respects_time_lock (h h' : HubSt) (e : HubEnv) (sender : Addr) (ms : List Msg)
    (hx : h.withdraw e sender = .ok (h', ms)) :
    h.unbonding ≤ e.now ∧
    ∀ i x, h.hist i = some x → ∃ x', h'.hist i = some x' ∧ x'.time = x.time ∧ x'.bAmt = x.bAmt ∧
      x'.sAmt = x.sAmt ∧ x'.bApplied = x.bApplied ∧ x'.sApplied = x.sApplied ∧
      (x.released = true → x' = x) ∧
      (x.released = false → x'.released = true → x.time + h.unbonding ≤ e.now) := by
  obtain ⟨hnow, h1, hp, _, _, hh, _⟩ := withdraw_spec h h' e sender ms hx
  subst hh
  have sp := processWithdrawRate_spec h h1 _ _ hp
  have fs := delWait_fold_spec (h1.finished sender).2 sender h1
  refine ⟨hnow, fun i x hxi => ?_⟩
  obtain ⟨x', h1x, t, b, s, ba, sa, keep, lock, _⟩ := (sp.2.2.2.2.2.2.2.2.2.2.2 i).2 x hxi
  refine ⟨x', ?_, t, b, s, ba, sa, keep, fun hr hr' => ?_⟩
  · show ((h1.finished sender).2.foldl (fun hh i => hh.delWait sender i) h1).hist i = some x'
    rw [fs.1]; exact h1x
  · have := lock hr hr'; omega

/-- A withdrawal pays only for released batches: the entries it removes are exactly the caller's
    entries whose history record is released (so never for the open batch, never before release). -/
theorem C08_paid_batches_are_released (h : HubSt) (u : Addr) :
    ∀ i ∈ (h.finished u).2, ∃ x, h.hist i = some x ∧ x.released = true ∧ h.waitSet u i = true := by
  intro i hi
  simp only [finished, userBatches, List.mem_filter] at hi
  cases hxi : h.hist i with
  | none => simp [hxi] at hi
  | some x => simp [hxi] at hi; exact ⟨x, rfl, hi.2, hi.1.2⟩

/-! Non-vacuity: the boundary second. With epoch 30 an unbond 30 s after the previous undelegation
    does not undelegate, 31 s after does. -/
example : ¬ (1000030 - 1000000 > 30) ∧ (1000031 - 1000000 > 30) := by decide

/-! ### Forward only, over every history

  `HistExt h h'`: `h'` continues `h`'s batch history — the open batch id never goes back, an entry
  that exists keeps its undelegation time, amounts and applied rates for ever, and a released entry
  never changes again (in particular it is never un-released and its withdraw rates are final). -/

structure HistExt (h h' : HubSt) : Prop where
  batch : h.batchId ≤ h'.batchId
  keep : ∀ i x, h.hist i = some x → ∃ x', h'.hist i = some x' ∧ x'.time = x.time ∧ x'.bAmt = x.bAmt ∧
    x'.sAmt = x.sAmt ∧ x'.bApplied = x.bApplied ∧ x'.sApplied = x.sApplied ∧ (x.released = true → x' = x)

theorem HistExt.refl (h : HubSt) : HistExt h h :=
  ⟨Nat.le_refl _, fun _ x hx => ⟨x, hx, rfl, rfl, rfl, rfl, rfl, fun _ => rfl⟩⟩

theorem HistExt.trans {a b c : HubSt} (x : HistExt a b) (y : HistExt b c) : HistExt a c := by
  refine ⟨Nat.le_trans x.batch y.batch, fun i e he => ?_⟩
  obtain ⟨e1, h1, t1, b1, s1, ba1, sa1, r1⟩ := x.keep i e he
  obtain ⟨e2, h2, t2, b2, s2, ba2, sa2, r2⟩ := y.keep i e1 h1
  refine ⟨e2, h2, by rw [t2, t1], by rw [b2, b1], by rw [s2, s1], by rw [ba2, ba1], by rw [sa2, sa1], fun hr => ?_⟩
  have := r1 hr; subst this
  exact r2 hr

theorem HistExt.of_same {h h' : HubSt} (hh : h'.hist = h.hist) (hb : h'.batchId = h.batchId) : HistExt h h' :=
  ⟨Nat.le_of_eq hb.symm, fun i x hx => ⟨x, (congrFun hh i).trans hx, rfl, rfl, rfl, rfl, rfl, fun _ => rfl⟩⟩

theorem HistExt.of_undelegation (h h' : HubSt) (e : HubEnv) (ms : List Msg) (inv : ClaimInv h)
    (hx : h.processUndelegations e = .ok (h', ms)) : HistExt h h' := by
  have sp := processUndelegations_spec h h' e ms hx
  obtain ⟨_, _, _, _, _, _, _, _, _, bid, _, hh, _⟩ := sp
  refine ⟨by rw [bid]; omega, fun i x hxi => ?_⟩
  have hlt := inv.histBound i (by rw [hxi]; simp)
  have hne : i ≠ h.batchId := by omega
  rw [hh, upd_other _ _ _ _ hne]
  exact ⟨x, hxi, rfl, rfl, rfl, rfl, rfl, fun _ => rfl⟩

/-- **Every hub message** continues the batch history. -/
theorem C08_hub_step_forward (h h' : HubSt) (e : HubEnv) (sender : Addr) (funds : List (Denom × Nat))
    (m : HubMsg) (ms : List Msg) (inv : ClaimInv h) (hl : h.legacy = [])
    (hx : hubExec h e sender funds m = .ok (h', ms)) : HistExt h h' := by
  cases hubExec_classify h h' e sender funds m ms hl hx with
  | quiet q _ => exact .of_same q.keeps.same.hist q.keeps.same.batchId
  | withdraw _ _ hw =>
    obtain ⟨_, keep⟩ := C08_release_respects_time_lock h h' e sender ms hw
    obtain ⟨_, h1, hp, _, _, rfl, _⟩ := withdraw_spec h h' e sender ms hw
    refine ⟨Nat.le_of_eq ?_, fun i x hxi => ?_⟩
    · exact ((delWait_fold_spec (h1.finished sender).2 sender h1).2.1.trans
        (processWithdrawRate_spec h h1 _ _ hp).2.2.2.2.1).symm
    · obtain ⟨x', h1x, t, b, s, ba, sa, keep, _⟩ := keep i x hxi
      exact ⟨x', h1x, t, b, s, ba, sa, keep⟩
  | unbond st h0 _ hst sh inv0 hcase =>
    have k := (actualState_keeps h st e hst).same
    have e0 : HistExt h h0 := .of_same (sh.hist.trans k.hist) (sh.batchId.trans k.batchId)
    rcases hcase with ⟨_, um, _, hp, _, _⟩ | ⟨rfl, _⟩
    · exact e0.trans (HistExt.of_undelegation _ _ _ _ (inv0 inv) hp)
    · exact e0

/-- **Every history.** Whatever happens between two points of any history of the composed system
    (no pre-migration entries injected), the later hub state continues the earlier one's batch
    history: batch ids never go back, no entry's time / amounts / applied rates are ever rewritten,
    nothing released is ever touched again. -/
theorem C08_forward_only (s : Sys) (l1 l2 : List Step) (inv : ClaimInv s.hub) (hl : s.hub.legacy = [])
    (hnl : ∀ u b a, Step.env (.seedLegacy u b a) ∉ l1 ++ l2) :
    HistExt (s.steps l1).hub (s.steps (l1 ++ l2)).hub := by
  have split : s.steps (l1 ++ l2) = (s.steps l1).steps l2 := by
    unfold Sys.steps; rw [List.foldl_append]
  rw [split]
  have mid := C07_reachable s l1 inv hl (fun u b a hm => hnl u b a (List.mem_append_left _ hm))
  -- over the second part, the claim invariant is carried along
  exact (hub_steps_inv (fun z => (ClaimInv z ∧ z.legacy = []) ∧ HistExt (s.steps l1).hub z)
    (fun _ _ _ _ _ _ _ hp hx => ⟨C07_hub_step _ _ _ _ _ _ _ hp.1.1 hp.1.2 hx,
      hp.2.trans (C08_hub_step_forward _ _ _ _ _ _ _ hp.1.1 hp.1.2 hx)⟩)
    l2 _ (fun u b a hm => hnl u b a (List.mem_append_right _ hm)) ⟨mid, HistExt.refl _⟩).2

end Krp
