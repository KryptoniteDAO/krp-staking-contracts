/-
  C04 — No user operation dilutes holders: a rate falls only through slashing.

  The per-handler theorems have the shape: if the rate `r` the operation starts from is a true ratio
  (`r·claims ≤ backing·10^18` — which is what `rateOf` yields whenever the pool is backed, C03) and
  positive, then the ratio of the pool after the operation is at least `r`, or the token's claims
  became zero (the definitional reset to 1).  The zero-backed state (booked stake 0 with claims
  outstanding, reported rate 1) violates the premise and is the known finding D6.  The theorems from
  `C04_still_tx_keeps_rates` on are about whole transactions and histories of the composed system:
  the rates the State query reports before and after.
-/
import Krp.Lemmas.RatePending
namespace Krp
open HubSt

/-- the step shared by all cases: a true ratio for the new pool bounds the new reported rate -/
theorem C04_rate_after (r B' S' R' : Nat) (hr : 0 < r) (h : r * (S' + R') ≤ B' * D) :
    S' + R' = 0 ∨ r ≤ rateOf B' S' R' := by
  by_cases hc : S' + R' = 0
  · exact Or.inl hc
  · right
    have hC : 0 < S' + R' := Nat.pos_of_ne_zero hc
    have hB : 0 < B' := by
      apply Nat.pos_of_ne_zero
      intro hb; subst hb
      have : 0 < r * (S' + R') := Nat.mul_pos hr hC
      omega
    exact le_rateOf r B' S' R' hB hC h

theorem rate_after (r B' S' R' : Nat) (h : r * (S' + R') ≤ B' * D) : S' + R' = 0 ∨ r ≤ rateOf B' S' R' := by
  by_cases hr : r = 0
  · right; rw [hr]; exact Nat.zero_le _
  · exact C04_rate_after r B' S' R' (Nat.pos_of_ne_zero hr) h

/-- `S'`: the supply once the mints `M` and burns `U` in flight have reached the ledger -/
theorem TR.rate_after {r B S R M U S' : Nat} (tr : TR r B S R M U) (hS : S' + U = S + M) :
    S' + R = 0 ∨ r ≤ rateOf B S' R := by
  apply Krp.rate_after
  unfold TR at tr
  rw [← hS, show S' + U + R = (S' + R) + U by omega, Nat.mul_add] at tr
  omega

/-- Bond (bSei): the payment joins the pool, at most ⌊payment/rate⌋ tokens are minted; the stSei
    pool is untouched. -/
theorem C04_bond_bsei (h h' : HubSt) (e : HubEnv) (sender : Addr) (funds : List (Denom × Nat))
    (ms : List Msg) (hx : h.bondB e sender funds = .ok (h', ms)) :
    ∃ st S mint, h.actualState e = .ok st ∧ S = (st.bSupplyQ e).toOption.getD 0 ∧
      h'.bRate = rateOf h'.bBond (S + mint) h.reqB ∧ h'.sBond = st.sBond ∧
      (st.bRate * (S + h.reqB) ≤ st.bBond * D → 0 < st.bRate →
        S + mint + h.reqB = 0 ∨ st.bRate ≤ h'.bRate) := by
  obtain ⟨p, st, mint, delegs, tok, hp, hst, hr0, hfee, _, _, rfl, _⟩ := bondB_spec h h' e sender funds ms hx
  exact ⟨st, _, mint, hst, rfl, rfl, rfl, fun htrue _ =>
    ((TR.of_ratio htrue).mint (minted_le st _ p mint hfee)).rate_after (Nat.add_zero _)⟩

/-- Bond (stSei): exactly ⌊payment/rate⌋ stSei are minted against the payment. -/
theorem C04_bond_stsei (h h' : HubSt) (e : HubEnv) (sender : Addr) (funds : List (Denom × Nat))
    (ms : List Msg) (hx : h.bondS e sender funds = .ok (h', ms)) (S : Nat) :
    ∃ st p, h.actualState e = .ok st ∧ paymentOf funds = .ok p ∧ h'.sBond = st.sBond + p ∧
      h'.bBond = st.bBond ∧ h'.bRate = st.bRate ∧
      (st.sRate * (S + h.reqS) ≤ st.sBond * D → 0 < st.sRate →
        S + decDiv p st.sRate + h.reqS = 0 ∨
        st.sRate ≤ rateOf h'.sBond (S + decDiv p st.sRate) h.reqS) := by
  obtain ⟨p, st, delegs, tok, hp, hst, _, _, _, rfl, _⟩ := bondS_spec h h' e sender funds ms hx
  exact ⟨st, p, hst, hp, rfl, rfl, rfl, fun htrue _ =>
    ((TR.of_ratio htrue).mint (decDiv_mul_le p st.sRate)).rate_after (Nat.add_zero _)⟩

/-- BondRewards raises the stSei rate and mints nothing: the only messages are Delegate messages,
    the stSei pool grows by the payment, the bSei pool and rate are untouched. -/
theorem C04_bond_rewards (h h' : HubSt) (e : HubEnv) (sender : Addr) (funds : List (Denom × Nat))
    (ms : List Msg) (hx : h.bondR e sender funds = .ok (h', ms)) :
    ∃ st p S, h.actualState e = .ok st ∧ paymentOf funds = .ok p ∧ S = (st.sSupplyQ e).toOption.getD 0 ∧
      h.delegMsgs e p = .ok ms ∧ h'.sBond = st.sBond + p ∧ h'.bBond = st.bBond ∧ h'.bRate = st.bRate ∧
      h'.sRate = rateOf h'.sBond S h.reqS ∧
      (st.sRate * (S + h.reqS) ≤ st.sBond * D → 0 < st.sRate → S + h.reqS = 0 ∨ st.sRate ≤ h'.sRate) := by
  obtain ⟨p, st, _, hp, hst, hms, rfl⟩ := bondR_spec h h' e sender funds ms hx
  exact ⟨st, p, _, hst, hp, rfl, hms, rfl, rfl, rfl, rfl, fun htrue _ =>
    ((TR.of_ratio htrue).mono (Nat.le_add_right _ p)).rate_after (Nat.add_zero _)⟩

/-- Delegate messages only: `delegMsgs` never addresses a token contract (no mint). -/
theorem C04_bond_rewards_mints_nothing (h : HubSt) (e : HubEnv) (p : Nat) (ms : List Msg)
    (hx : h.delegMsgs e p = .ok ms) : ∀ m ∈ ms, ∃ v a, m = Msg.delegate e.self v a :=
  fun _ hm => delegMsgs_mem hx hm

/-- Unbond request (bSei), before any undelegation: the tokens are burnt, the request (less the peg
    fee) stays in the claim base, the backing is unchanged. -/
theorem C04_unbond_request_bsei (st : HubSt) (user : Addr) (S amount withFee : Nat)
    (hw : withFee ≤ amount) (ha : amount ≤ S) (hpos : 0 < st.bRate)
    (htrue : st.bRate * (S + st.reqB) ≤ st.bBond * D) :
    let st' := st.afterUnbondB user S amount withFee
    st'.bBond = st.bBond ∧ st'.sBond = st.sBond ∧ st'.sRate = st.sRate ∧
    st'.bRate = rateOf st'.bBond (S - amount) st'.reqB ∧
    ((S - amount) + st'.reqB = 0 ∨ st.bRate ≤ st'.bRate) := by
  have : st.bRate * ((S - amount) + (st.reqB + withFee)) ≤ st.bBond * D :=
    Nat.le_trans (Nat.mul_le_mul_left _ (by omega)) htrue
  simp only [afterUnbondB, addWait, true_and]
  exact C04_rate_after _ _ _ _ hpos this

/-- Batch undelegation: for each token ⌊requests × rate⌋ of backing leaves together with the
    requests; neither ratio falls. `Sb`, `Ss` are the token supplies at that moment. -/
theorem C04_undelegation (h h' : HubSt) (e : HubEnv) (ms : List Msg) (Sb Ss : Nat)
    (hx : h.processUndelegations e = .ok (h', ms))
    (hb : h.bRate * (Sb + h.reqB) ≤ h.bBond * D) (hs : h.sRate * (Ss + h.reqS) ≤ h.sBond * D)
    (hbp : 0 < h.bRate) (hsp : 0 < h.sRate) :
    (Sb + h'.reqB = 0 ∨ h.bRate ≤ rateOf h'.bBond Sb h'.reqB) ∧
    (Ss + h'.reqS = 0 ∨ h.sRate ≤ rateOf h'.sBond Ss h'.reqS) := by
  obtain ⟨_, hls, hlb, es, eb, _, _, rb, rs, _⟩ := processUndelegations_spec h h' e ms hx
  rw [rb, rs, es, eb]
  have kb := rate_mono_sub h.bRate h.bBond (Sb + h.reqB) h.reqB (mulDec h.reqB h.bRate) hb (mulDec_mul_le _ _) hlb
  have ks := rate_mono_sub h.sRate h.sBond (Ss + h.reqS) h.reqS (mulDec h.reqS h.sRate) hs (mulDec_mul_le _ _) hls
  rw [Nat.add_sub_cancel] at kb ks
  exact ⟨C04_rate_after _ _ Sb 0 hbp kb, C04_rate_after _ _ Ss 0 hsp ks⟩

/-- Convert stSei→bSei: value leaves the stSei pool with the burnt stSei and joins the bSei pool
    against at most ⌊value/rate⌋ new bSei; neither rate falls. -/
theorem C04_convert_stsei_bsei (h h' : HubSt) (e : HubEnv) (amount : Nat) (user : Addr) (ms : List Msg)
    (hx : h.convertSB e amount user = .ok (h', ms)) :
    ∃ st bs ss mint, h.actualState e = .ok st ∧ st.bSupplyQ e = .ok bs ∧ st.sSupplyQ e = .ok ss ∧
      h'.bRate = rateOf h'.bBond (bs + mint) st.reqB ∧ h'.sRate = rateOf h'.sBond (ss - amount) st.reqS ∧
      (st.bRate * (bs + st.reqB) ≤ st.bBond * D → 0 < st.bRate →
        bs + mint + st.reqB = 0 ∨ st.bRate ≤ h'.bRate) ∧
      (st.sRate * (ss + st.reqS) ≤ st.sBond * D → 0 < st.sRate →
        (ss - amount) + st.reqS = 0 ∨ st.sRate ≤ h'.sRate) := by
  obtain ⟨st, sTok, bTok, bs, ss, mint, hst, _, _, _, hbs, hss, hfee, hle, hle2, rfl, _⟩ :=
    convertSB_spec h h' e amount user ms hx
  exact ⟨st, bs, ss, mint, hst, hbs, hss, rfl, rfl,
    fun htrue _ => ((TR.of_ratio htrue).mint (minted_le st _ _ mint hfee)).rate_after (Nat.add_zero _),
    fun htrue _ => ((TR.of_ratio htrue).burn (mulDec_mul_le amount st.sRate) hle).rate_after
      (Nat.sub_add_cancel hle2)⟩

/-- Convert bSei→stSei: symmetric. -/
theorem C04_convert_bsei_stsei (h h' : HubSt) (e : HubEnv) (amount : Nat) (user : Addr) (ms : List Msg)
    (hx : h.convertBS e amount user = .ok (h', ms)) :
    ∃ st bs ss withFee, h.actualState e = .ok st ∧ st.bSupplyQ e = .ok bs ∧ st.sSupplyQ e = .ok ss ∧
      h'.bRate = rateOf h'.bBond (bs - amount) st.reqB ∧
      h'.sRate = rateOf h'.sBond (ss + decDiv (mulDec withFee st.bRate) st.sRate) st.reqS ∧
      (st.bRate * (bs + st.reqB) ≤ st.bBond * D → 0 < st.bRate →
        (bs - amount) + st.reqB = 0 ∨ st.bRate ≤ h'.bRate) ∧
      (st.sRate * (ss + st.reqS) ≤ st.sBond * D → 0 < st.sRate →
        ss + decDiv (mulDec withFee st.bRate) st.sRate + st.reqS = 0 ∨ st.sRate ≤ h'.sRate) := by
  obtain ⟨st, sTok, bTok, bs, ss, withFee, hst, _, _, hbs, hss, hfee, _, hle, hle2, rfl, _⟩ :=
    convertBS_spec h h' e amount user ms hx
  have hv : mulDec withFee st.bRate * D ≤ amount * st.bRate :=
    Nat.le_trans (mulDec_mul_le _ _) (Nat.mul_le_mul_right _ (pegFeeOnBurn_spec st _ _ _ hfee).1)
  exact ⟨st, bs, ss, withFee, hst, hbs, hss, rfl, rfl,
    fun htrue _ => ((TR.of_ratio htrue).burn hv hle).rate_after (Nat.sub_add_cancel hle2),
    fun htrue _ => ((TR.of_ratio htrue).mint (decDiv_mul_le _ st.sRate)).rate_after (Nat.add_zero _)⟩

/-- A slashing check with nothing slashed, a withdrawal, a token transfer or a registry operation
    does not touch pools, supplies or pending requests, hence no rate: see C06_no_slash_no_change;
    the coin value ⌊balance × rate⌋ of a passive holder is monotone in the rate, so along any
    slash-free history it never shrinks. -/
theorem C04_passive_value_mono (bal r r' : Nat) (h : r ≤ r') : mulDec bal r ≤ mulDec bal r' :=
  Nat.div_le_div_right (Nat.mul_le_mul_left _ h)

def Nondecreasing : List Nat → Prop
  | [] => True
  | [_] => True
  | a :: b :: t => a ≤ b ∧ Nondecreasing (b :: t)

/-- lifting to histories: along any sequence of non-slashing operations (each step's rate at least
    the previous one, by the theorems above) the holder's coin value never shrinks -/
theorem C04_history_mono (rs : List Nat) (r0 : Nat) (hchain : Nondecreasing (r0 :: rs)) (bal : Nat) :
    ∀ r ∈ rs, mulDec bal r0 ≤ mulDec bal r := by
  induction rs generalizing r0 with
  | nil => intro r hr; cases hr
  | cons x xs ih =>
    intro r hr
    have h1 : r0 ≤ x := hchain.1
    have h2 : Nondecreasing (x :: xs) := hchain.2
    cases hr with
    | head => exact C04_passive_value_mono _ _ _ h1
    | tail _ hm => exact Nat.le_trans (C04_passive_value_mono _ _ _ h1) (ih x h2 r hm)

/-- The premise is necessary: the zero-backed state (D6). One bSei outstanding against a pool booked
    at 0 reports rate 1, and a 1000-coin bond lowers it to 0.999000999… -/
theorem C04_zero_backed_counterexample :
    rateOf 0 1 0 = D ∧ rateOf (0 + 1000) (1 + decDiv 1000 D) 0 < D := by decide

/-! Non-vacuity of the premises: backed pool at rate 0.9. -/
example : rateOf 900 1000 0 * (1000 + 0) ≤ 900 * D ∧ 0 < rateOf 900 1000 0 := by decide

/-! ### whole transactions that cannot move a rate

  `Still m` (Lemmas/Still.lean): `m` is a WithdrawUnbonded, an owner parameter / ownership message,
  a wait-list migration, an airdrop hook, a token Transfer / TransferFrom / allowance change / Send
  to another contract than the hub, any reward-contract message (claims included), a dispatcher
  message other than DispatchRewards, a registry AddValidator / UpdateConfig / ownership message, a
  bank or distribution message. Handling it — and everything it triggers — leaves both pools, the
  pending requests, both token supplies and the delegations untouched, so the reported rates are
  exactly what they were. -/

/-- the exchange rates the State query reports (bSei, stSei), or the query's failure -/
def reportedRates (s : Sys) : Res (Nat × Nat) :=
  match s.hub.actualState s.hubEnv with
  | .ok st => .ok (st.bRate, st.sRate)
  | .error e => .error e

theorem reportedRates_congr (s s' : Sys) (p : SamePoolsW s s')
    (hsum : ((s'.hubEnv.delegations).map (·.2)).sum = ((s.hubEnv.delegations).map (·.2)).sum) :
    reportedRates s' = reportedRates s := by
  have hsup : s'.hubEnv.supplyOf = s.hubEnv.supplyOf := by
    funext a
    show s'.supplyOf a = s.supplyOf a
    unfold Sys.supplyOf; rw [p.bSupply, p.sSupply]
  have k := actualState_congr s.hub s'.hub s.hubEnv s'.hubEnv p.bBond p.sBond p.reqB p.reqS p.btok p.stok
    p.bRate p.sRate hsum p.ne hsup
  unfold reportedRates
  cases h1 : s'.hub.actualState s'.hubEnv <;> cases h2 : s.hub.actualState s.hubEnv <;> rw [h1, h2] at k <;>
    simp only [Except.map, Except.ok.injEq, Except.error.injEq, Prod.mk.injEq, reduceCtorEq] at k
  · rw [k]
  · show Except.ok (_, _) = Except.ok (_, _)
    rw [k.2.2.1, k.2.2.2]

theorem reportedRates_of_samePools (s s' : Sys) (p : SamePools s s') : reportedRates s' = reportedRates s := by
  apply reportedRates_congr s s' p.weak
  show (((s'.delegationsOf hubA)).map (·.2)).sum = ((s.delegationsOf hubA).map (·.2)).sum
  unfold Sys.delegationsOf; rw [p.deleg, p.delegSet]

/-- **No still transaction moves a rate.** Whatever still message starts the transaction, whoever
    sends it, whatever it triggers and whether or not it succeeds: the State query reports the same
    two exchange rates afterwards. -/
theorem C04_still_tx_keeps_rates (s : Sys) (m : Msg) (hm : Still m = true) :
    reportedRates (s.exec m).1 = reportedRates s :=
  reportedRates_of_samePools s _ (exec_still s m hm)

theorem env_keeps_rates (s : Sys) (e : EnvOp) (hns : ∀ v n d, e ≠ .slash v n d) (hne : ∀ u b a, e ≠ .seedLegacy u b a) :
    reportedRates (s.env e) = reportedRates s := by
  apply reportedRates_of_samePools
  have sc := env_same s e hne
  have hdl : (s.env e).chain.deleg = s.chain.deleg ∧ (s.env e).chain.delegSet = s.chain.delegSet := by
    cases e with
    | slash v n d => exact absurd rfl (hns v n d)
    | slashUnbonding v n d => simp only [Sys.env]; split <;> exact ⟨rfl, rfl⟩
    | seedLegacy u b a => exact absurd rfl (hne u b a)
    | _ => exact ⟨rfl, rfl⟩
  exact ⟨by rw [sc.hub], by rw [sc.hub], by rw [sc.hub], by rw [sc.hub], by rw [sc.hub], by rw [sc.hub],
    by rw [sc.hub], by rw [sc.hub], by rw [sc.bsei], by rw [sc.stsei], hdl.1, hdl.2⟩

/-- …over any history of still transactions and environment events other than slashing -/
theorem C04_still_history_keeps_rates (s : Sys) (l : List Step)
    (hst : ∀ m, Step.tx m ∈ l → Still m = true)
    (hns : ∀ v n d, Step.env (.slash v n d) ∉ l) (hnl : ∀ u b a, Step.env (.seedLegacy u b a) ∉ l) :
    reportedRates (s.steps l) = reportedRates s := by
  induction l generalizing s with
  | nil => rfl
  | cons st rest ih =>
    show reportedRates ((s.step st).steps rest) = _
    rw [ih (s.step st) (fun m hm => hst m (List.mem_cons_of_mem _ hm))
      (fun v n d hm => hns v n d (List.mem_cons_of_mem _ hm)) (fun u b a hm => hnl u b a (List.mem_cons_of_mem _ hm))]
    cases st with
    | tx m => exact C04_still_tx_keeps_rates s m (hst m (List.mem_cons_self ..))
    | env e =>
      exact env_keeps_rates s e (fun v n d he => hns v n d (he ▸ List.mem_cons_self ..))
        (fun u b a he => hnl u b a (he ▸ List.mem_cons_self ..))

/-- the operations the property names that are still: withdraw, transfer, reward claim -/
example (u v : Addr) (a : Nat) :
    Still (.wasm u hubA (.hub .withdrawUnbonded) []) = true ∧
    Still (.wasm u bseiA (.tok (.transfer v a)) []) = true ∧
    Still (.wasm u stseiA (.tok (.transferFrom v u a)) []) = true ∧
    Still (.wasm u rewardA (.reward (.claim none)) []) = true ∧
    Still (.wasm u regA (.reg (.add v)) []) = true := ⟨rfl, rfl, rfl, rfl, rfl⟩

/-! ### any transaction: the composed theorem

  `Lemmas/RateInv`–`RateStep`: through every message of a transaction — whatever it is, whoever
  sends it, whatever it triggers in the six contracts, the bank and the staking module — the two
  rates the transaction started from stay true ratios of the *effective* pools (booked stake over
  supply + Mint messages in flight − the hub's Burn messages in flight + requests). When the queue is
  empty nothing is in flight, so they are true ratios of the final pools, and the rates the State
  query then derives are at least as high. -/

/-- the pool is backed: the zero-backed state (stake 0 with claims outstanding, rate reported as 1)
    is the known finding D6 and excluded -/
def Backed (B S R : Nat) : Prop := 0 < B ∨ S + R = 0

/-- **No transaction lowers a rate (pools).** Start in any state of the composed system with both
    tokens registered, well-formed ledgers, the books within the delegations (no unrecognised
    slash: C02), stake bonded and both pools backed. Let anyone send any message that is neither a
    staking message in the hub's name, nor a token Mint, nor sent from the hub's own address. If the
    transaction succeeds, then for each token: either its claims (supply + requests) are zero at the
    end, or the ratio of the start is still a true ratio of the final pool — hence at most the rate
    the final pool yields. (A failed transaction changes nothing.) -/
theorem C04_tx_keeps_true_ratios (s s' : Sys) (m : Msg)
    (hstk : isStake m = false) (hmint : isMint m = false) (hsnd : m.sentFrom ≠ hubA)
    (c : ChainOK s) (hbk : s.hub.bBond + s.hub.sBond ≤ totalDelegated s) (hb0 : s.hub.bBond + s.hub.sBond ≠ 0)
    (btok : s.hub.bsei = some bseiA) (stok : s.hub.stsei = some stseiA)
    (bwf : s.bsei.WF) (swf : s.stsei.WF) (bhub : s.bsei.hub = hubA) (shub : s.stsei.hub = hubA)
    (backB : Backed s.hub.bBond s.bsei.supply s.hub.reqB) (backS : Backed s.hub.sBond s.stsei.supply s.hub.reqS)
    (hrun : Sys.run 400 s [m] = .ok s') :
    (s'.bsei.supply + s'.hub.reqB = 0 ∨ rb0 s ≤ rateOf s'.hub.bBond s'.bsei.supply s'.hub.reqB) ∧
    (s'.stsei.supply + s'.hub.reqS = 0 ∨ rs0 s ≤ rateOf s'.hub.sBond s'.stsei.supply s'.hub.reqS) ∧
    s'.hub.bBond + s'.hub.sBond ≤ totalDelegated s' ∧
    rb0 s * (s'.bsei.supply + s'.hub.reqB) ≤ s'.hub.bBond * D ∧
    rs0 s * (s'.stsei.supply + s'.hub.reqS) ≤ s'.hub.sBond * D ∧
    s'.hub.bsei = some bseiA ∧ s'.hub.stsei = some stseiA ∧ ChainOK s' := by
  have nf : NoFlow [m] := by
    have h1 : ∀ t, mintsTo t [m] = 0 := fun t => mintsTo_of_noMint t [m] (List.forall_mem_singleton.mpr hmint)
    have h2 : ∀ t, burnsBy t [m] = 0 := fun t =>
      burnsBy_of_sentBy t m.sentFrom [m] (List.forall_mem_singleton.mpr rfl) hsnd
    exact ⟨h1 _, h1 _, h2 _, h2 _⟩
  have inv0 : RInv s s [m] := by
    refine ⟨⟨c, [], [m], rfl, (fun _ h => nomatch h), List.forall_mem_singleton.mpr hstk,
        by show _ + 0 ≤ _ + 0; omega⟩,
      btok, stok, bwf, swf, bhub, shub, ?_, ?_,
      Or.inl ⟨SamePricing.refl s, nf, [], [m], rfl, AllStill.nil, fun _ h => nomatch h⟩⟩
    · rw [nf.1, nf.2.2.1]; exact TR.of_ratio (rateOf_mul_le _ _ _ backB)
    · rw [nf.2.1, nf.2.2.2]; exact TR.of_ratio (rateOf_mul_le _ _ _ backS)
  have fin := run_inv2 (RInv s) (fun a b r a' sb h hx => RInv.step s a a' b r sb hb0 h hx) 400 s [m] s' inv0 hrun
  obtain ⟨tb, ts⟩ := fin.final
  exact ⟨rate_after _ _ _ _ tb, rate_after _ _ _ _ ts, fin.book.drained, tb, ts, fin.btok, fin.stok,
    fin.book.chain⟩

theorem reportedRates_noslash (s : Sys) (c : ChainOK s) (hbk : s.hub.bBond + s.hub.sBond ≤ totalDelegated s)
    (btok : s.hub.bsei = some bseiA) (stok : s.hub.stsei = some stseiA) (rb rs : Nat)
    (h : reportedRates s = .ok (rb, rs)) :
    (s.hub.bBond + s.hub.sBond ≠ 0 → rb = rb0 s ∧ rs = rs0 s) ∧
    (s.hub.bBond + s.hub.sBond = 0 → rb = s.hub.bRate ∧ rs = s.hub.sRate) := by
  unfold reportedRates at h
  split at h
  · rename_i st hst
    injection h with h; injection h with h1 h2
    subst h1; subst h2
    have ns : s.hub.bBond + s.hub.sBond ≤ ((s.hubEnv.delegations).map (·.2)).sum := by
      rw [delegations_sum s c]; exact hbk
    constructor
    · intro hz
      have hd : s.hubEnv.delegations ≠ [] := by
        intro hnil; rw [hnil] at ns; exact hz (Nat.le_zero.mp ns)
      have f := checked_state s.hub st s.hubEnv hst btok stok _ _ (supplyOf_bsei s) (supplyOf_stsei s) hd hz
      obtain ⟨eb, es, _⟩ := C06_no_slash_no_change s.hub st s.hubEnv hst ns
      rw [eb, es] at f
      exact ⟨f.2.2.1, f.2.2.2.1⟩
    · intro hz
      have sp := actualState_spec s.hub st s.hubEnv hst
      rcases sp.2 with ⟨_, he⟩ | ⟨_, _, _, hne, _⟩
      · rw [he]; exact ⟨rfl, rfl⟩
      · exact absurd hz hne
  · cases h

theorem reported_after (s' : Sys) (rb rs rb' rs' : Nat)
    (k : rb * (s'.bsei.supply + s'.hub.reqB) ≤ s'.hub.bBond * D ∧
      rs * (s'.stsei.supply + s'.hub.reqS) ≤ s'.hub.sBond * D ∧
      s'.hub.bBond + s'.hub.sBond ≤ totalDelegated s' ∧
      s'.hub.bsei = some bseiA ∧ s'.hub.stsei = some stseiA ∧ ChainOK s')
    (h1 : reportedRates s' = .ok (rb', rs')) :
    (s'.bsei.supply + s'.hub.reqB = 0 ∨ rb ≤ rb') ∧ (s'.stsei.supply + s'.hub.reqS = 0 ∨ rs ≤ rs') := by
  obtain ⟨k4, k5, k3, k6, k7, k8⟩ := k
  have r1 := reportedRates_noslash s' k8 k3 k6 k7 rb' rs' h1
  by_cases hz : s'.hub.bBond + s'.hub.sBond = 0
  · -- nothing is booked any more: a rate that was positive leaves no claims behind
    have hB : s'.hub.bBond = 0 := by omega
    have hS : s'.hub.sBond = 0 := by omega
    rw [hB, Nat.zero_mul, Nat.le_zero, Nat.mul_eq_zero] at k4
    rw [hS, Nat.zero_mul, Nat.le_zero, Nat.mul_eq_zero] at k5
    exact ⟨k4.elim (fun h => Or.inr (h ▸ Nat.zero_le _)) Or.inl, k5.elim (fun h => Or.inr (h ▸ Nat.zero_le _)) Or.inl⟩
  · obtain ⟨e1, e2⟩ := r1.1 hz
    rw [e1, e2]
    exact ⟨rate_after _ _ _ _ k4, rate_after _ _ _ _ k5⟩

theorem exec_rates (s : Sys) (m : Msg) (rb rs rb' rs' : Nat) (h0 : reportedRates s = .ok (rb, rs))
    (h1 : reportedRates (s.exec m).1 = .ok (rb', rs'))
    (hok : ∀ s', Sys.run 400 s [m] = .ok s' → reportedRates s' = .ok (rb', rs') →
      (s'.bsei.supply + s'.hub.reqB = 0 ∨ rb ≤ rb') ∧ (s'.stsei.supply + s'.hub.reqS = 0 ∨ rs ≤ rs')) :
    ((s.exec m).1.bsei.supply + (s.exec m).1.hub.reqB = 0 ∨ rb ≤ rb') ∧
    ((s.exec m).1.stsei.supply + (s.exec m).1.hub.reqS = 0 ∨ rs ≤ rs') := by
  unfold Sys.exec at h1 ⊢
  split at h1
  · rename_i s' hrun
    exact hok s' hrun h1
  · rw [h0] at h1
    cases h1
    exact ⟨Or.inr (Nat.le_refl _), Or.inr (Nat.le_refl _)⟩

/-- **No transaction lowers a reported rate.** Under the premises of `C04_tx_keeps_true_ratios`: if
    the State query reports `(rb, rs)` before a transaction and `(rb', rs')` after it — whether the
    transaction succeeded or not — then for each token the rate did not fall, unless the token ends
    the transaction without any claims (no supply and no pending requests). -/
theorem C04_tx_never_lowers_rates (s : Sys) (m : Msg)
    (hstk : isStake m = false) (hmint : isMint m = false) (hsnd : m.sentFrom ≠ hubA)
    (c : ChainOK s) (hbk : s.hub.bBond + s.hub.sBond ≤ totalDelegated s) (hb0 : s.hub.bBond + s.hub.sBond ≠ 0)
    (btok : s.hub.bsei = some bseiA) (stok : s.hub.stsei = some stseiA)
    (bwf : s.bsei.WF) (swf : s.stsei.WF) (bhub : s.bsei.hub = hubA) (shub : s.stsei.hub = hubA)
    (backB : Backed s.hub.bBond s.bsei.supply s.hub.reqB) (backS : Backed s.hub.sBond s.stsei.supply s.hub.reqS)
    (rb rs rb' rs' : Nat) (h0 : reportedRates s = .ok (rb, rs))
    (h1 : reportedRates (s.exec m).1 = .ok (rb', rs')) :
    ((s.exec m).1.bsei.supply + (s.exec m).1.hub.reqB = 0 ∨ rb ≤ rb') ∧
    ((s.exec m).1.stsei.supply + (s.exec m).1.hub.reqS = 0 ∨ rs ≤ rs') := by
  have r0 := (reportedRates_noslash s c hbk btok stok rb rs h0).1 hb0
  refine exec_rates s m rb rs rb' rs' h0 h1 (fun s' hrun h1' => ?_)
  obtain ⟨_, _, k3, k4, k5, k6, k7, k8⟩ := C04_tx_keeps_true_ratios s s' m hstk hmint hsnd c hbk hb0 btok stok
    bwf swf bhub shub backB backS hrun
  rw [r0.1, r0.2]
  exact reported_after s' _ _ rb' rs' ⟨k4, k5, k3, k6, k7, k8⟩ h1'

/-- **Every reachable state.** From a state `g` with the books within the delegations, both tokens
    registered and well-formed ledgers (genesis), after any history without validator slashing —
    any transactions by anyone, failures, time, rewards, donations, slashing of *unbonding* stake —
    a transaction that finds stake bonded and both pools backed does not lower a reported rate. -/
theorem C04_reachable_tx (g : Sys) (l : List Step) (m : Msg)
    (cg : ChainOK g) (hg : g.hub.bBond + g.hub.sBond ≤ totalDelegated g) (hns : ∀ st ∈ l, NoSlash st)
    (btok : g.hub.bsei = some bseiA) (stok : g.hub.stsei = some stseiA)
    (bwf : g.bsei.WF) (swf : g.stsei.WF) (bhub : g.bsei.hub = hubA) (shub : g.stsei.hub = hubA)
    (hstk : isStake m = false) (hmint : isMint m = false) (hsnd : m.sentFrom ≠ hubA)
    (hb0 : (g.steps l).hub.bBond + (g.steps l).hub.sBond ≠ 0)
    (backB : Backed (g.steps l).hub.bBond (g.steps l).bsei.supply (g.steps l).hub.reqB)
    (backS : Backed (g.steps l).hub.sBond (g.steps l).stsei.supply (g.steps l).hub.reqS)
    (rb rs rb' rs' : Nat) (h0 : reportedRates (g.steps l) = .ok (rb, rs))
    (h1 : reportedRates ((g.steps l).exec m).1 = .ok (rb', rs')) :
    (((g.steps l).exec m).1.bsei.supply + ((g.steps l).exec m).1.hub.reqB = 0 ∨ rb ≤ rb') ∧
    (((g.steps l).exec m).1.stsei.supply + ((g.steps l).exec m).1.hub.reqS = 0 ∨ rs ≤ rs') := by
  have bk := C02_reachable g l cg hg hns
  have tk := tokens_registered_reachable g l btok stok
  have wf := C18_reachable g l bwf swf
  exact C04_tx_never_lowers_rates (g.steps l) m hstk hmint hsnd bk.2 bk.1 hb0 tk.1 tk.2 wf.1 wf.2.1
    (by rw [wf.2.2.1]; exact bhub) (by rw [wf.2.2.2.1]; exact shub) backB backS rb rs rb' rs' h0 h1

/-! Non-vacuity: genesis satisfies the premises on `g`; a backed pool at rate 0.9 satisfies `Backed`. -/
example : ChainOK genesisSys ∧ genesisSys.hub.bBond + genesisSys.hub.sBond ≤ totalDelegated genesisSys ∧
    genesisSys.hub.bsei = some bseiA ∧ genesisSys.hub.stsei = some stseiA ∧
    genesisSys.bsei.hub = hubA ∧ genesisSys.stsei.hub = hubA :=
  ⟨⟨fun _ _ => rfl, fun _ _ => rfl⟩, by decide, by decide, by decide, by decide, by decide⟩
example : Backed 900 1000 0 ∧ Backed 0 0 0 := ⟨Or.inl (by decide), Or.inr rfl⟩

/-- a history in which every transaction meets the premises of `C04_tx_never_lowers_rates` where it
    starts, leaves claims on both tokens, and the State query answers before and after it; and no
    event slashes a validator -/
inductive Steady : Sys → List Step → Prop where
  | nil (s : Sys) : Steady s []
  | env (s : Sys) (e : EnvOp) (rest : List Step) (hns : ∀ v n d, e ≠ .slash v n d)
      (hne : ∀ u b a, e ≠ .seedLegacy u b a) (h : Steady (s.env e) rest) : Steady s (.env e :: rest)
  | tx (s : Sys) (m : Msg) (rest : List Step)
      (hstk : isStake m = false) (hmint : isMint m = false) (hsnd : m.sentFrom ≠ hubA)
      (hb0 : s.hub.bBond + s.hub.sBond ≠ 0)
      (backB : Backed s.hub.bBond s.bsei.supply s.hub.reqB) (backS : Backed s.hub.sBond s.stsei.supply s.hub.reqS)
      (hq : ∃ r, reportedRates (s.exec m).1 = .ok r)
      (hcb : (s.exec m).1.bsei.supply + (s.exec m).1.hub.reqB ≠ 0)
      (hcs : (s.exec m).1.stsei.supply + (s.exec m).1.hub.reqS ≠ 0)
      (h : Steady (s.exec m).1 rest) : Steady s (.tx m :: rest)

/-- **Along any steady history both reported rates only rise** — so the coin value
    `⌊balance × rate⌋` of a passive holder of either token never shrinks. -/
theorem C04_steady_history (s : Sys) (l : List Step) (hst : Steady s l)
    (c : ChainOK s) (hbk : s.hub.bBond + s.hub.sBond ≤ totalDelegated s)
    (btok : s.hub.bsei = some bseiA) (stok : s.hub.stsei = some stseiA)
    (bwf : s.bsei.WF) (swf : s.stsei.WF) (bhub : s.bsei.hub = hubA) (shub : s.stsei.hub = hubA)
    (rb rs : Nat) (h0 : reportedRates s = .ok (rb, rs)) :
    ∃ rb' rs', reportedRates (s.steps l) = .ok (rb', rs') ∧ rb ≤ rb' ∧ rs ≤ rs' ∧
      ∀ bal, mulDec bal rb ≤ mulDec bal rb' ∧ mulDec bal rs ≤ mulDec bal rs' := by
  induction hst generalizing rb rs with
  | nil s => exact ⟨rb, rs, h0, Nat.le_refl _, Nat.le_refl _, fun _ => ⟨Nat.le_refl _, Nat.le_refl _⟩⟩
  | env s e rest hns hne _ ih =>
    have one : ∀ st ∈ [Step.env e], NoSlash st := by
      refine List.forall_mem_singleton.mpr ?_
      cases e with
      | slash v n d => exact absurd rfl (hns v n d)
      | _ => trivial
    have bk := C02_reachable s [.env e] c hbk one
    have tk := tokens_registered_reachable s [.env e] btok stok
    have wf := C18_reachable s [.env e] bwf swf
    exact ih bk.2 bk.1 tk.1 tk.2 wf.1 wf.2.1 (wf.2.2.1.trans bhub) (wf.2.2.2.1.trans shub) rb rs
      (by rw [env_keeps_rates s e hns hne]; exact h0)
  | tx s m rest hstk hmint hsnd hb0 backB backS hq hcb hcs _ ih =>
    obtain ⟨⟨r1, r2⟩, hq⟩ := hq
    have k := C04_tx_never_lowers_rates s m hstk hmint hsnd c hbk hb0 btok stok bwf swf bhub shub backB backS
      rb rs r1 r2 h0 hq
    have hb1 : rb ≤ r1 := by rcases k.1 with h | h; exact absurd h hcb; exact h
    have hs1 : rs ≤ r2 := by rcases k.2 with h | h; exact absurd h hcs; exact h
    have one : ∀ st ∈ [Step.tx m], NoSlash st := List.forall_mem_singleton.mpr hstk
    have bk := C02_reachable s [.tx m] c hbk one
    have tk := tokens_registered_reachable s [.tx m] btok stok
    have wf := C18_reachable s [.tx m] bwf swf
    obtain ⟨rb', rs', h1, h2, h3, _⟩ := ih bk.2 bk.1 tk.1 tk.2 wf.1 wf.2.1 (wf.2.2.1.trans bhub)
      (wf.2.2.2.1.trans shub) r1 r2 hq
    refine ⟨rb', rs', h1, Nat.le_trans hb1 h2, Nat.le_trans hs1 h3, fun bal => ?_⟩
    exact ⟨C04_passive_value_mono _ _ _ (Nat.le_trans hb1 h2), C04_passive_value_mono _ _ _ (Nat.le_trans hs1 h3)⟩

/-! ### Every minting / redeeming entry point, with a slash still unrecognised

  Bond, BondForStSei and the two token hooks (unbond, convert — either token) each begin with the
  hub's own slashing check. Whatever that check recognises, the handler prices with the pools it
  produces — the pools the State query *already reported* before the call. So, slash pending or
  not, measured against the rates reported before the call: once the mints and burns the handler
  emits have executed, neither rate is lower (or the token has no claims left). -/

theorem C04_pricing_entry_any_state (h h' : HubSt) (e : HubEnv) (sender : Addr) (funds : List (Denom × Nat))
    (m : HubMsg) (ms : List Msg) (hx : hubExec h e sender funds m = .ok (h', ms))
    (htr : Trg (.wasm sender hubA (.hub m) funds) = true)
    (hself : e.self = hubA) (hb : h.bsei = some bseiA) (hs : h.stsei = some stseiA)
    (bs ss : Nat) (hbs : e.supplyOf bseiA = .ok bs) (hss : e.supplyOf stseiA = .ok ss)
    (st0 : HubSt) (hst0 : h.actualState e = .ok st0)
    (hd : e.delegations ≠ []) (hz : h.bBond + h.sBond ≠ 0)
    (backB : Backed st0.bBond bs h.reqB) (backS : Backed st0.sBond ss h.reqS) :
    -- the reported rates before the call: st0's
    st0.bRate = rateOf st0.bBond bs h.reqB ∧ st0.sRate = rateOf st0.sBond ss h.reqS ∧
    -- ... and for every supply the emitted mints and burns lead to
    (∀ S', S' + burnsBy bseiA ms = bs + mintsTo bseiA ms →
        S' + h'.reqB = 0 ∨ st0.bRate ≤ rateOf h'.bBond S' h'.reqB) ∧
    (∀ S', S' + burnsBy stseiA ms = ss + mintsTo stseiA ms →
        S' + h'.reqS = 0 ∨ st0.sRate ≤ rateOf h'.sBond S' h'.reqS) := by
  have f := checked_state h st0 e hst0 hb hs bs ss hbs hss hd hz
  have trb : TR (rateOf st0.bBond bs h.reqB) st0.bBond bs h.reqB 0 0 :=
    TR.of_ratio (rateOf_mul_le st0.bBond bs h.reqB backB)
  have trs : TR (rateOf st0.sBond ss h.reqS) st0.sBond ss h.reqS 0 0 :=
    TR.of_ratio (rateOf_mul_le st0.sBond ss h.reqS backS)
  have fl := hub_flowG h h' e sender funds m ms hx htr hself hb hs bs ss hbs hss st0 hst0 hd hz trb trs
  refine ⟨f.2.2.1, f.2.2.2.1, fun S' hS => ?_, fun S' hS => ?_⟩
  · rw [f.2.2.1]; exact fl.1.rate_after hS
  · rw [f.2.2.2.1]; exact fl.2.rate_after hS

/-! Non-vacuity of `C04_pricing_entry_any_state`: a Bond arriving while a slash of one half is still
    unrecognised (books 6 + 4, delegated 5) is accepted; the hypotheses are met with `st0` = pools 3 + 2. -/
example : ∃ r, hubExec { (default : HubSt) with bBond := 6, sBond := 4, thr := 1000000000000000000, bRate := 1000000000000000000, sRate := 1000000000000000000, bsei := some bseiA, stsei := some stseiA, dispatcher := some dispA, registry := some regA }
    { self := hubA, now := 0, hubBalance := 0, delegations := [(201, 5)], supplyOf := fun _ => .ok 5, validatorsOf := fun _ => .ok [(201, 5)] } 5 [(0, 100)] .bond = .ok r := ⟨_, rfl⟩

/-! ### A pricing operation arriving while a slash is still unrecognised — the whole transaction

  The composed theorem above starts from a state with no slash pending. These start from *any* state.
  A Bond or BondForStSei is the first message of the transaction; an unbond or convert is a token
  `Send` (or `SendFrom`) to the hub: the token moves the balance, tells the reward contract (bSei), and
  calls the hub's hook. Until the minting / redeeming handler runs, everything handled is still:
  pools, requests, supplies and delegations are those of the start, so the handler's own slashing
  check produces the pools the State query reported at the start (`Lemmas/RatePending`: `PInv`,
  `trigger_establishes`, `pending_step`). It recognises whatever slash is pending and prices with
  those pools, and from there on the invariant of the composed theorem takes over (relative to those
  reported pools). So, slash pending or not, no bond, unbond or convert — of either token, by anyone
  — leaves a *reported* rate lower. -/

/-- the user operations that price: a minting / redeeming hub entry point sent directly, or a token
    `Send` / `SendFrom` to the hub (unbond, convert) -/
def PricingOp (m : Msg) : Prop :=
  (∃ sender hm funds, m = .wasm sender hubA (.hub hm) funds ∧ IsTrigHub hm) ∨
  (∃ sender tokA tm funds, m = .wasm sender tokA (.tok tm) funds ∧ (tokA = bseiA ∨ tokA = stseiA) ∧
      sendsToHub hubA tm = true)

theorem pricing_run (s s' : Sys) (m : Msg) (hop : PricingOp m) (c : ChainOK s)
    (btok : s.hub.bsei = some bseiA) (stok : s.hub.stsei = some stseiA)
    (bwf : s.bsei.WF) (swf : s.stsei.WF) (bhub : s.bsei.hub = hubA) (shub : s.stsei.hub = hubA)
    (hd : s.delegationsOf hubA ≠ []) (hz : s.hub.bBond + s.hub.sBond ≠ 0)
    (st0 : HubSt) (hst0 : s.hub.actualState s.hubEnv = .ok st0)
    (hz0 : st0.bBond + st0.sBond ≠ 0)
    (backB : Backed st0.bBond s.bsei.supply s.hub.reqB) (backS : Backed st0.sBond s.stsei.supply s.hub.reqS)
    (hrun : Sys.run 400 s [m] = .ok s') :
    st0.bRate * (s'.bsei.supply + s'.hub.reqB) ≤ s'.hub.bBond * D ∧
    st0.sRate * (s'.stsei.supply + s'.hub.reqS) ≤ s'.hub.sBond * D ∧
    s'.hub.bBond + s'.hub.sBond ≤ totalDelegated s' ∧
    s'.hub.bsei = some bseiA ∧ s'.hub.stsei = some stseiA ∧ ChainOK s' := by
  rcases hop with ⟨sender, hm, funds, rfl, ht⟩ | ⟨sender, tokA, tm, funds, rfl, htok, hsend⟩
  · exact pending_run s st0 c hst0 btok stok hd hz hz0 backB backS 400 s _ s'
      ⟨c, SamePools.refl s, btok, stok, bwf, swf, bhub, shub, [], sender, hm, funds, rfl, AllStill.nil, ht⟩ hrun
  · obtain ⟨s1, subs, h1, hrun'⟩ := run_ok_cons hrun
    exact pending_run s st0 c hst0 btok stok hd hz hz0 backB backS 399 s1 _ s'
      (PInv.after_send htok hsend c btok stok bwf swf bhub shub h1) hrun'

private theorem reported_conclusion (st0 : HubSt) (s' : Sys)
    (h : st0.bRate * (s'.bsei.supply + s'.hub.reqB) ≤ s'.hub.bBond * D ∧
      st0.sRate * (s'.stsei.supply + s'.hub.reqS) ≤ s'.hub.sBond * D ∧
      s'.hub.bBond + s'.hub.sBond ≤ totalDelegated s' ∧
      s'.hub.bsei = some bseiA ∧ s'.hub.stsei = some stseiA ∧ ChainOK s') :
    (s'.bsei.supply + s'.hub.reqB = 0 ∨ st0.bRate ≤ rateOf s'.hub.bBond s'.bsei.supply s'.hub.reqB) ∧
    (s'.stsei.supply + s'.hub.reqS = 0 ∨ st0.sRate ≤ rateOf s'.hub.sBond s'.stsei.supply s'.hub.reqS) ∧
    s'.hub.bBond + s'.hub.sBond ≤ totalDelegated s' :=
  ⟨rate_after _ _ _ _ h.1, rate_after _ _ _ _ h.2.1, h.2.2.1⟩

/-- every minting / redeeming hub entry point as the top-level message (Bond, BondForStSei, and the
    hook itself when a token is the sender), from any state -/
theorem C04_trigger_tx_any_state (s s' : Sys) (sender : Addr) (funds : List (Denom × Nat)) (hm : HubMsg)
    (hp : IsTrigHub hm) (c : ChainOK s)
    (btok : s.hub.bsei = some bseiA) (stok : s.hub.stsei = some stseiA)
    (bwf : s.bsei.WF) (swf : s.stsei.WF) (bhub : s.bsei.hub = hubA) (shub : s.stsei.hub = hubA)
    (hd : s.delegationsOf hubA ≠ []) (hz : s.hub.bBond + s.hub.sBond ≠ 0)
    (st0 : HubSt) (hst0 : s.hub.actualState s.hubEnv = .ok st0)
    (hz0 : st0.bBond + st0.sBond ≠ 0)
    (backB : Backed st0.bBond s.bsei.supply s.hub.reqB) (backS : Backed st0.sBond s.stsei.supply s.hub.reqS)
    (hx : Sys.run 400 s [.wasm sender hubA (.hub hm) funds] = .ok s') :
    (s'.bsei.supply + s'.hub.reqB = 0 ∨ st0.bRate ≤ rateOf s'.hub.bBond s'.bsei.supply s'.hub.reqB) ∧
    (s'.stsei.supply + s'.hub.reqS = 0 ∨ st0.sRate ≤ rateOf s'.hub.sBond s'.stsei.supply s'.hub.reqS) ∧
    s'.hub.bBond + s'.hub.sBond ≤ totalDelegated s' :=
  reported_conclusion st0 s' (pricing_run s s' _ (Or.inl ⟨sender, hm, funds, rfl, hp⟩) c btok stok bwf swf bhub shub
    hd hz st0 hst0 hz0 backB backS hx)

/-- in particular a Bond or a BondForStSei -/
theorem C04_bond_tx_any_state (s s' : Sys) (sender : Addr) (funds : List (Denom × Nat)) (hm : HubMsg)
    (hp : hm = .bond ∨ hm = .bondForStSei) (c : ChainOK s)
    (btok : s.hub.bsei = some bseiA) (stok : s.hub.stsei = some stseiA)
    (bwf : s.bsei.WF) (swf : s.stsei.WF) (bhub : s.bsei.hub = hubA) (shub : s.stsei.hub = hubA)
    (hd : s.delegationsOf hubA ≠ []) (hz : s.hub.bBond + s.hub.sBond ≠ 0)
    (st0 : HubSt) (hst0 : s.hub.actualState s.hubEnv = .ok st0)
    (hz0 : st0.bBond + st0.sBond ≠ 0)
    (backB : Backed st0.bBond s.bsei.supply s.hub.reqB) (backS : Backed st0.sBond s.stsei.supply s.hub.reqS)
    (hx : Sys.run 400 s [.wasm sender hubA (.hub hm) funds] = .ok s') :
    (s'.bsei.supply + s'.hub.reqB = 0 ∨ st0.bRate ≤ rateOf s'.hub.bBond s'.bsei.supply s'.hub.reqB) ∧
    (s'.stsei.supply + s'.hub.reqS = 0 ∨ st0.sRate ≤ rateOf s'.hub.sBond s'.stsei.supply s'.hub.reqS) ∧
    s'.hub.bBond + s'.hub.sBond ≤ totalDelegated s' :=
  C04_trigger_tx_any_state s s' sender funds hm (hp.elim Or.inl (fun h => Or.inr (Or.inl h))) c btok stok
    bwf swf bhub shub hd hz st0 hst0 hz0 backB backS hx

/-- **unbond and convert of either token, from any state** -/
theorem C04_unbond_convert_tx_any_state (s s' : Sys) (sender tokA : Addr) (funds : List (Denom × Nat)) (tm : TokMsg)
    (htok : tokA = bseiA ∨ tokA = stseiA) (hsend : sendsToHub hubA tm = true) (c : ChainOK s)
    (btok : s.hub.bsei = some bseiA) (stok : s.hub.stsei = some stseiA)
    (bwf : s.bsei.WF) (swf : s.stsei.WF) (bhub : s.bsei.hub = hubA) (shub : s.stsei.hub = hubA)
    (hd : s.delegationsOf hubA ≠ []) (hz : s.hub.bBond + s.hub.sBond ≠ 0)
    (st0 : HubSt) (hst0 : s.hub.actualState s.hubEnv = .ok st0)
    (hz0 : st0.bBond + st0.sBond ≠ 0)
    (backB : Backed st0.bBond s.bsei.supply s.hub.reqB) (backS : Backed st0.sBond s.stsei.supply s.hub.reqS)
    (hx : Sys.run 400 s [.wasm sender tokA (.tok tm) funds] = .ok s') :
    (s'.bsei.supply + s'.hub.reqB = 0 ∨ st0.bRate ≤ rateOf s'.hub.bBond s'.bsei.supply s'.hub.reqB) ∧
    (s'.stsei.supply + s'.hub.reqS = 0 ∨ st0.sRate ≤ rateOf s'.hub.sBond s'.stsei.supply s'.hub.reqS) ∧
    s'.hub.bBond + s'.hub.sBond ≤ totalDelegated s' :=
  reported_conclusion st0 s' (pricing_run s s' _ (Or.inr ⟨sender, tokA, tm, funds, rfl, htok, hsend⟩) c btok stok
    bwf swf bhub shub hd hz st0 hst0 hz0 backB backS hx)

/-- **No pricing operation lowers a reported rate — from any state.** Whatever the State query
    reports before the transaction `(rb, rs)` — with a slash still unrecognised in the books or not
    — and after it `(rb', rs')`, whether the transaction succeeded or not: for each token the rate
    did not fall, unless the token ends the transaction without any claims. (Premises: delegations
    exist, stake is booked and still backed after the pending slash, tokens registered, ledgers
    well-formed.) -/
theorem C04_pricing_op_never_lowers_rates_any_state (s : Sys) (m : Msg) (hop : PricingOp m)
    (c : ChainOK s)
    (btok : s.hub.bsei = some bseiA) (stok : s.hub.stsei = some stseiA)
    (bwf : s.bsei.WF) (swf : s.stsei.WF) (bhub : s.bsei.hub = hubA) (shub : s.stsei.hub = hubA)
    (hd : s.delegationsOf hubA ≠ []) (hz : s.hub.bBond + s.hub.sBond ≠ 0)
    (st0 : HubSt) (hst0 : s.hub.actualState s.hubEnv = .ok st0)
    (hz0 : st0.bBond + st0.sBond ≠ 0)
    (backB : Backed st0.bBond s.bsei.supply s.hub.reqB) (backS : Backed st0.sBond s.stsei.supply s.hub.reqS)
    (rb' rs' : Nat) (h1 : reportedRates (s.exec m).1 = .ok (rb', rs')) :
    reportedRates s = .ok (st0.bRate, st0.sRate) ∧
    ((s.exec m).1.bsei.supply + (s.exec m).1.hub.reqB = 0 ∨ st0.bRate ≤ rb') ∧
    ((s.exec m).1.stsei.supply + (s.exec m).1.hub.reqS = 0 ∨ st0.sRate ≤ rs') := by
  have h0 : reportedRates s = .ok (st0.bRate, st0.sRate) := by unfold reportedRates; rw [hst0]
  exact ⟨h0, exec_rates s m _ _ rb' rs' h0 h1 (fun s' hrun h1' => reported_after s' _ _ rb' rs'
    (pricing_run s s' m hop c btok stok bwf swf bhub shub hd hz st0 hst0 hz0 backB backS hrun) h1')⟩

/-! ### Index updates arriving while a slash is still unrecognised

  UpdateGlobalIndex, the dispatcher's DispatchRewards, BondRewards, the registry's RemoveValidator and
  Redelegations with the hub's RedelegateProxy and the Redelegate messages — and every still message —
  as the top-level message, from any state (`Lemmas/RatePending`, second pending mode `PInvB`): until
  BondRewards runs, nothing that prices moves; if it never runs (no stSei-side rewards) the State
  query answers afterwards exactly what it answered before; if it runs it recognises the slash,
  prices with the pools the query had already reported, and only adds to the stSei pool. -/

theorem C04_index_update_never_lowers_rates_any_state (s : Sys) (m : Msg) (hop : PendQ m = true)
    (c : ChainOK s)
    (btok : s.hub.bsei = some bseiA) (stok : s.hub.stsei = some stseiA)
    (bwf : s.bsei.WF) (swf : s.stsei.WF) (bhub : s.bsei.hub = hubA) (shub : s.stsei.hub = hubA)
    (hd : s.delegationsOf hubA ≠ []) (hz : s.hub.bBond + s.hub.sBond ≠ 0)
    (st0 : HubSt) (hst0 : s.hub.actualState s.hubEnv = .ok st0)
    (hz0 : st0.bBond + st0.sBond ≠ 0)
    (backB : Backed st0.bBond s.bsei.supply s.hub.reqB) (backS : Backed st0.sBond s.stsei.supply s.hub.reqS)
    (rb' rs' : Nat) (h1 : reportedRates (s.exec m).1 = .ok (rb', rs')) :
    reportedRates s = .ok (st0.bRate, st0.sRate) ∧
    ((s.exec m).1.bsei.supply + (s.exec m).1.hub.reqB = 0 ∨ st0.bRate ≤ rb') ∧
    ((s.exec m).1.stsei.supply + (s.exec m).1.hub.reqS = 0 ∨ st0.sRate ≤ rs') := by
  have h0 : reportedRates s = .ok (st0.bRate, st0.sRate) := by unfold reportedRates; rw [hst0]
  refine ⟨h0, exec_rates s m _ _ rb' rs' h0 h1 (fun s' hrun h1' => ?_)⟩
  have inv : PInvB s s [m] :=
    ⟨c, (SamePools.refl s).weak, btok, stok, bwf, swf, bhub, shub, List.forall_mem_singleton.mpr hop⟩
  rcases pending_runB s st0 c hst0 btok stok hd hz hz0 backB backS 400 s _ s' inv hrun with ⟨sp, ck⟩ | key
  · -- the slash is still pending and nothing that prices has moved
    rw [reportedRates_congr s s' sp (by rw [delegations_sum s' ck, delegations_sum s c, sp.total]), h0] at h1'
    cases h1'
    exact ⟨Or.inr (Nat.le_refl _), Or.inr (Nat.le_refl _)⟩
  · exact reported_after s' _ _ rb' rs' key h1'

/-- in particular a validator removal (or the follow-up Redelegations), with the redelegation of the
    removed validator's stake and the index update it triggers, from any state -/
theorem C04_validator_removal_never_lowers_rates_any_state (s : Sys) (sender v : Addr) (funds : List (Denom × Nat))
    (follow : Bool) (c : ChainOK s)
    (btok : s.hub.bsei = some bseiA) (stok : s.hub.stsei = some stseiA)
    (bwf : s.bsei.WF) (swf : s.stsei.WF) (bhub : s.bsei.hub = hubA) (shub : s.stsei.hub = hubA)
    (hd : s.delegationsOf hubA ≠ []) (hz : s.hub.bBond + s.hub.sBond ≠ 0)
    (st0 : HubSt) (hst0 : s.hub.actualState s.hubEnv = .ok st0)
    (hz0 : st0.bBond + st0.sBond ≠ 0)
    (backB : Backed st0.bBond s.bsei.supply s.hub.reqB) (backS : Backed st0.sBond s.stsei.supply s.hub.reqS)
    (rb' rs' : Nat)
    (h1 : reportedRates (s.exec (.wasm sender regA (.reg (if follow then .redelegations v else .remove v)) funds)).1 = .ok (rb', rs')) :
    ((s.exec (.wasm sender regA (.reg (if follow then .redelegations v else .remove v)) funds)).1.bsei.supply +
        (s.exec (.wasm sender regA (.reg (if follow then .redelegations v else .remove v)) funds)).1.hub.reqB = 0 ∨ st0.bRate ≤ rb') ∧
    ((s.exec (.wasm sender regA (.reg (if follow then .redelegations v else .remove v)) funds)).1.stsei.supply +
        (s.exec (.wasm sender regA (.reg (if follow then .redelegations v else .remove v)) funds)).1.hub.reqS = 0 ∨ st0.sRate ≤ rs') :=
  (C04_index_update_never_lowers_rates_any_state s _ (by cases follow <;> rfl) c btok stok bwf swf bhub shub hd hz
    st0 hst0 hz0 backB backS rb' rs' h1).2

/-! ### CheckSlashing, slash pending or not

  The State query already reports the pools as the chain's delegations define them. CheckSlashing
  stores exactly that answer, and the answer is a fixed point of the query: whoever sends a
  CheckSlashing, in any state — with a slash still unrecognised or without —, the *reported* rates
  and pools afterwards are the reported rates and pools before. -/

private theorem actualState_fix (st : HubSt) (e : HubEnv) (bs ss : Nat) (hd : e.delegations ≠ [])
    (hb : st.bSupplyQ e = .ok bs) (hs : st.sSupplyQ e = .ok ss)
    (hle : st.bBond + st.sBond ≤ (e.delegations.map (·.2)).sum)
    (hrb : st.bRate = rateOf st.bBond bs st.reqB) (hrs : st.sRate = rateOf st.sBond ss st.reqS) :
    st.actualState e = .ok st := by
  unfold actualState
  rw [if_neg hd]
  by_cases hz : st.bBond + st.sBond = 0
  · rw [if_pos hz]
  · rw [if_neg hz]
    simp only [bind, Except.bind, hb, hs]
    rw [if_neg (Nat.not_lt.mpr hle), ← hrb, ← hrs]
    cases st; rfl

theorem C04_state_query_idempotent (h st : HubSt) (e : HubEnv) (hx : h.actualState e = .ok st) :
    st.actualState e = .ok st := by
  have sp := actualState_spec h st e hx
  have sb := sp.1
  rcases sp.2 with ⟨_, rfl⟩ | ⟨bs, ss, hd, hz, hbs, hss, hrb, hrs, hp⟩
  · exact hx
  · have q1 : st.bSupplyQ e = .ok bs := by simp only [bSupplyQ, sb.bsei] at hbs ⊢; exact hbs
    have q2 : st.sSupplyQ e = .ok ss := by simp only [sSupplyQ, sb.stsei] at hss ⊢; exact hss
    refine actualState_fix st e bs ss hd q1 q2 ?_ (by rw [sb.reqB]; exact hrb) (by rw [sb.reqS]; exact hrs)
    rcases hp with ⟨hle, e1, e2⟩ | ⟨_, _, hsum⟩
    · rw [e1, e2]; exact hle
    · rw [hsum]

theorem C04_check_slashing_keeps_reported (h h' : HubSt) (e : HubEnv) (sender : Addr) (funds : List (Denom × Nat))
    (ms : List Msg) (hx : hubExec h e sender funds .checkSlashing = .ok (h', ms)) :
    h.actualState e = .ok h' ∧ h'.actualState e = .ok h' ∧ ms = [] := by
  cases hubExec_route hx with
  | checkSlashing _ hst hm => exact ⟨hst, C04_state_query_idempotent h _ e hst, hm⟩

/-! Non-vacuity: a slash of one half is pending (books 10, delegated 5); CheckSlashing stores what the
    query reported. -/
example : ∃ st, ({ (default : HubSt) with bBond := 6, sBond := 4, bsei := some 101, stsei := some 102 }).actualState
    { self := 100, now := 0, hubBalance := 0, delegations := [(201, 5)], supplyOf := fun _ => .ok 5,
      validatorsOf := fun _ => .ok [] } = .ok st ∧ st.bBond = 3 ∧ st.sBond = 2 := ⟨_, rfl, by decide, by decide⟩

end Krp
