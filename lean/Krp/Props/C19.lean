/-
  C19 — A global index update delivers all staking rewards to the right parties.
  Composition of: hub.UpdateGlobalIndex (this file) → distribution withdrawals (this file) →
  dispatcher swap + dispatch (C17) → hub.BondRewards (C04_bond_rewards, C02) and
  reward.UpdateGlobalIndex (C14).
-/
import Krp.Props.C17
import Krp.Props.C04
import Krp.Props.C14
import Krp.Props.C07
namespace Krp
open HubSt

theorem sentOf_notFrom (self : Addr) (d : Denom) (q : List Msg) (h : ∀ x ∈ q, x.sentFrom ≠ self) :
    sentOf self d q = 0 := by
  induction q with
  | nil => rfl
  | cons m ms ih =>
    have hm := h m (List.mem_cons_self ..)
    have r := ih fun x hx => h x (List.mem_cons_of_mem _ hx)
    cases m with
    | bankSend src _ dn a => simp only [sentOf, r, Nat.add_zero]; exact if_neg fun h => hm h.1
    | wasm sd _ _ fs => simp only [sentOf, r, Nat.add_zero]; exact if_neg hm
    | _ => exact r

/-- The hub's part: it asks for the rewards of every validator it delegates to, then tells the
    dispatcher to swap (passing the booked pool totals) and to dispatch; of its own state only
    `last_index_modification` changes — pools, rates, batch, claims, history, prev_hub_balance and
    every parameter and address are untouched. -/
theorem C19_hub_update_global (h h' : HubSt) (e : HubEnv) (sender : Addr) (ms : List Msg)
    (hx : h.updateGlobal e sender = .ok (h', ms)) :
    ∃ disp, h.dispatcher = some disp ∧ (sender = h.updater ∨ h.registry = some sender) ∧
      ms = e.delegations.map (fun d => Msg.withdrawReward e.self d.1) ++
           [Msg.wasm e.self disp (.disp (.swap h.bBond h.sBond)) [],
            Msg.wasm e.self disp (.disp .dispatch) []] ∧
      h' = { h with lastIndexMod := e.now } :=
  updateGlobal_spec hx

/-- Withdrawing the rewards of a validator pays everything pending there (every coin) to the
    withdraw address and leaves nothing pending; nothing else on the chain or in any contract moves. -/
theorem C19_withdraw_reward_pays_all (s s' : Sys) (v : Addr) (ms : List Msg)
    (hx : s.handle (.withdrawReward hubA v) = .ok (s', ms)) :
    ms = [] ∧ (∀ d, d ∈ ([0, 1, 2] : List Denom) → s'.chain.pending v d = 0) ∧
    s'.hub = s.hub ∧ s'.bsei = s.bsei ∧ s'.stsei = s.stsei ∧ s'.reward = s.reward ∧ s'.disp = s.disp ∧
    s'.chain.deleg = s.chain.deleg ∧ (∀ w, w ≠ v → s'.chain.pending w = s.chain.pending w) := by
  obtain ⟨_, _, rfl, bank, pending, rfl, _, hp⟩ := handle_withdrawReward hx
  refine ⟨rfl, fun d hd => ?_, rfl, rfl, rfl, rfl, rfl, rfl, fun w hw => funext fun d => ?_⟩
  · exact (hp v d).trans (if_pos ⟨rfl, hd⟩)
  · exact (hp w d).trans (if_neg fun h => hw h.1)

/-- The whole update, in the dispatcher: nothing is kept (C17), the stSei share is re-bonded to the
    hub without minting (C04), the bSei share reaches the reward contract followed by its index
    update (C14). Restated here as the conjunction that C19 composes. -/
theorem C19_dispatch_delivers (c : DispSt) (self : Addr) (stBal bBal : Nat)
    (hrate : c.keeperRate ≤ D) (hden : c.stDenom ≠ c.bDenom) :
    ∃ ms, dispatchMsgs c self stBal bBal = .ok ms ∧
      sentOf self c.bDenom ms = bBal ∧ sentOf self c.stDenom ms = stBal ∧
      Msg.wasm self c.rewardContract (.reward .updateGlobalIndex) [] ∈ ms := by
  obtain ⟨ms, h1, h2, h3, _, _, h6⟩ := C17_dispatch_conserves c self stBal bBal hrate hden
  exact ⟨ms, h1, h2, h3, h6⟩

/-- Re-bonding raises the stSei pool by exactly the re-bonded amount, mints nothing and leaves the
    bSei pool and rate alone (apart from slashing recognised by the same check). -/
theorem C19_rebond_raises_stsei_only (h h' : HubSt) (e : HubEnv) (sender : Addr) (funds : List (Denom × Nat))
    (ms : List Msg) (hx : h.bondR e sender funds = .ok (h', ms)) :
    ∃ st p, h.actualState e = .ok st ∧ paymentOf funds = .ok p ∧ h'.sBond = st.sBond + p ∧
      h'.bBond = st.bBond ∧ h'.bRate = st.bRate ∧ (∀ m ∈ ms, ∃ v a, m = Msg.delegate e.self v a) := by
  obtain ⟨st, p, S, hst, hp, _, hms, h1, h2, h3, _, _⟩ := C04_bond_rewards h h' e sender funds ms hx
  exact ⟨st, p, hst, hp, h1, h2, h3, C04_bond_rewards_mints_nothing h e p ms hms⟩

/-- ... and the stSei rate the hub stores after re-bonding is the new pool over *all* stSei claims:
    the token's supply plus the requests still waiting in the open batch (whose stake is still in
    the pool) — also when the whole supply has been sent to Unbond and only requests remain. -/
theorem C19_rebond_rate_is_pool_over_claims (h h' : HubSt) (e : HubEnv) (sender : Addr) (funds : List (Denom × Nat))
    (ms : List Msg) (hx : h.bondR e sender funds = .ok (h', ms))
    (tok : Addr) (htok : h.stsei = some tok) (S : Nat) (hS : e.supplyOf tok = .ok S) :
    h'.sRate = rateOf h'.sBond S h'.reqS ∧ h'.reqS = h.reqS ∧
    (h'.sBond ≠ 0 → S + h.reqS ≠ 0 → h'.sRate = h'.sBond * D / (S + h.reqS)) := by
  obtain ⟨st, p, S', hst, _, hS', _, _, _, _, hr, _⟩ := C04_bond_rewards h h' e sender funds ms hx
  obtain ⟨_, st2, _, _, hst2, _, hh⟩ := bondR_spec h h' e sender funds ms hx
  have est : st2 = st := by rw [hst] at hst2; injection hst2 with h1; exact h1.symm
  have sb := (actualState_spec h st e hst).1
  have e1 : S' = S := by
    rw [hS']; simp only [sSupplyQ, sb.stsei, htok, hS]; rfl
  have e2 : h'.reqS = h.reqS := by rw [hh, est]; exact sb.reqS
  rw [e1] at hr
  refine ⟨by rw [e2]; exact hr, e2, fun hb hc => ?_⟩
  rw [hr, rateOf, if_neg (by intro hor; rcases hor with h1 | h1; exact hb h1; exact hc h1)]
  rfl

example : ∃ ms, dispatchMsgs { (default : DispSt) with keeperRate := D / 20, stDenom := 0, bDenom := 1 } 104 100 200 = .ok ms :=
  ⟨_, rfl⟩

/-! ### End to end: the whole UpdateGlobalIndex transaction

  The messages an index update can cause, by shape (`Flow`), are closed under handling in a wired
  system: reward withdrawals, the dispatcher's swap and dispatch, swap-contract calls and their
  payouts, the dispatcher's transfers, BondRewards, the hub's Delegate messages, the reward
  contract's index update.  Along that flow no token handler runs, the hub runs only BondRewards,
  and nobody reconfigures anything.

  The hub queues the dispatch last (`dMsg`).  Until it is handled only reward withdrawals, the
  dispatcher's swap, its swap-contract calls and their payouts run (`Pre`).  The dispatch emits the
  dispatcher's transfers, at most one BondRewards, and last the reward contract's index update
  (`uMsg`); from then on only these and the hub's Delegate messages run (`post`), and none of them
  brings coins to the dispatcher. -/

def Flow : Msg → Bool
  | .withdrawReward d _ => d == hubA
  | .wasm s t (.disp (.swap _ _)) f => s == hubA && t == dispA && f.isEmpty
  | .wasm s t (.disp .dispatch) f => s == hubA && t == dispA && f.isEmpty
  | .wasm s _ (.swapDenom _ _ _ none) _ => s == dispA
  | .bankSend src dst _ _ => (src == swapA || src == dispA) && dst != hubA
  | .wasm s t (.hub .bondRewards) _ => s == dispA && t == hubA
  | .delegate d _ _ => d == hubA
  | .wasm s t (.reward .updateGlobalIndex) f => s == dispA && t == rewardA && f.isEmpty
  | _ => false

def Pre : Msg → Bool
  | .withdrawReward d _ => d == hubA
  | .wasm s t (.disp (.swap _ _)) f => s == hubA && t == dispA && f.isEmpty
  | .wasm s _ (.swapDenom _ _ _ none) _ => s == dispA
  | .bankSend src dst _ _ => src == swapA && dst != hubA
  | _ => false

def post : Msg → Bool
  | .bankSend src dst _ _ => src == dispA && dst != dispA
  | .wasm s t (.hub .bondRewards) _ => s == dispA && t == hubA
  | .delegate d _ _ => d == hubA
  | .wasm s t (.reward .updateGlobalIndex) f => s == dispA && t == rewardA && f.isEmpty
  | _ => false

def dMsg : Msg := .wasm hubA dispA (.disp .dispatch) []

def uMsg : Msg := .wasm dispA rewardA (.reward .updateGlobalIndex) []

/-- the wiring the index update relies on (E3) -/
structure Wired19 (s : Sys) : Prop where
  hubDisp : s.hub.dispatcher = some dispA
  dispHub : s.disp.hub = hubA
  dispRw : s.disp.rewardContract = rewardA
  keeper : s.disp.keeper ≠ hubA
  wa : s.chain.withdrawAddr ≠ hubA

def AllFlow (q : List Msg) : Prop := ∀ m ∈ q, Flow m = true

theorem AllFlow.append {x y : List Msg} (h1 : AllFlow x) (h2 : AllFlow y) : AllFlow (x ++ y) :=
  List.forall_mem_append.mpr ⟨h1, h2⟩

theorem pre_flow {m : Msg} (h : Pre m = true) : Flow m = true := by
  unfold Pre at h
  split at h
  · exact h
  · exact h
  · exact h
  · simp only [Flow, Bool.and_eq_true, Bool.or_eq_true] at h ⊢
    exact ⟨.inl h.1, h.2⟩
  · cases h

/-- the queued messages that can still make the hub book a re-bond: the dispatch, and the
    BondRewards it emits -/
def rebonds (q : List Msg) : Nat :=
  q.countP fun
    | .wasm _ _ (.disp .dispatch) _ => true
    | .wasm _ _ (.hub .bondRewards) _ => true
    | _ => false

theorem rebonds_append (x y : List Msg) : rebonds (x ++ y) = rebonds x + rebonds y := List.countP_append

theorem pre_counts {l : List Msg} (h : ∀ x ∈ l, Pre x = true) : delSum l = 0 ∧ rebonds l = 0 := by
  refine ⟨(noStake_sums l fun x hx => ?_).1, List.countP_eq_zero.mpr fun x hx => ?_⟩
  all_goals
    have hp := h x hx
    unfold Pre at hp
    split at hp <;> first | cases hp | rfl | exact Bool.false_ne_true

/-- What handling one flow message amounts to, kind by kind, with the handler that ran already
    taken apart: the new state, and what is emitted. -/
inductive FlowRan (s : Sys) : Sys → List Msg → Msg → Prop where
  | withdraw (v : Addr) (bank pending : Addr → Denom → Nat)
      (hb : ∀ a d, bank a d = if a = s.chain.withdrawAddr ∧ d ∈ ([0, 1, 2] : List Denom)
        then s.chain.bank a d + s.chain.pending v d else s.chain.bank a d) :
      FlowRan s { s with chain := { s.chain with bank := bank, pending := pending } } [] (.withdrawReward hubA v)
  | swap (b st : Nat) (subs : List Msg) (hms : ∀ x ∈ subs, Pre x = true) :
      FlowRan s s subs (.wasm hubA dispA (.disp (.swap b st)) [])
  | dispatch (subs : List Msg)
      (hms : dispatchMsgs s.disp dispA (s.chain.bank dispA s.disp.stDenom) (s.chain.bank dispA s.disp.bDenom) = .ok subs) :
      FlowRan s s subs (.wasm hubA dispA (.disp .dispatch) [])
  | swapCall (t : Addr) (src : Denom) (amt : Nat) (dst : Denom) (f : List (Denom × Nat)) (s' : Sys)
      (subs : List Msg) (ht : t ≠ hubA) (hmv : s.moveFunds dispA t f = .ok s') (hms : ∀ x ∈ subs, Pre x = true) :
      FlowRan s s' subs (.wasm dispA t (.swapDenom src amt dst none) f)
  | send (src dst : Addr) (d : Denom) (amt : Nat) (s' : Sys) (hsrc : src = swapA ∨ src = dispA)
      (hdst : dst ≠ hubA) (hmv : s.bankMove src dst d amt = .ok s') : FlowRan s s' [] (.bankSend src dst d amt)
  | rebond (f : List (Denom × Nat)) (s1 : Sys) (h' : HubSt) (subs : List Msg)
      (hmv : s.moveFunds dispA hubA f = .ok s1)
      (hx : hubExec s1.hub s1.hubEnv dispA f .bondRewards = .ok (h', subs))
      (hms : ∀ x ∈ subs, ∃ v a, x = Msg.delegate hubA v a) :
      FlowRan s { s1 with hub := h' } subs (.wasm dispA hubA (.hub .bondRewards) f)
  | delegate (v : Addr) (amt : Nat) (hle : amt ≤ s.chain.bank hubA 0) :
      FlowRan s { s with chain := { s.chain with
        bank := upd s.chain.bank hubA (upd (s.chain.bank hubA) 0 (s.chain.bank hubA 0 - amt)),
        deleg := upd s.chain.deleg v (s.chain.deleg v + amt),
        delegSet := upd s.chain.delegSet v true } } [] (.delegate hubA v amt)
  | index (r' : RewardSt)
      (hx : rewardExec s.reward rewardA (s.hubTokenOf s.reward.hub) (s.hubDispatcherOf s.reward.hub)
        (s.chain.bank rewardA) dispA .updateGlobalIndex = .ok (r', [])) :
      FlowRan s { s with reward := r' } [] (.wasm dispA rewardA (.reward .updateGlobalIndex) [])

theorem flow_ran {s s' : Sys} {m : Msg} {subs : List Msg} (hf : Flow m = true)
    (hx : s.handle m = .ok (s', subs)) : FlowRan s s' subs m := by
  cases m with
  | withdrawReward who v =>
    obtain ⟨rfl, _, rfl, bank, pending, rfl, hb, _⟩ := handle_withdrawReward hx
    exact .withdraw v bank pending hb
  | delegate who v amt =>
    obtain ⟨rfl, _, _, hle, rfl, rfl⟩ := handle_delegate hx
    exact .delegate v amt hle
  | bankSend src dst d amt =>
    obtain ⟨hmv, rfl⟩ := handle_bankSend hx
    simp only [Flow, Bool.and_eq_true, Bool.or_eq_true, beq_iff_eq, bne_iff_ne] at hf
    exact .send src dst d amt s' hf.1 hf.2 hmv
  | wasm a b c f =>
    cases c with
    | hub hm =>
      cases hm with
      | bondRewards =>
        obtain ⟨rfl, rfl⟩ : a = dispA ∧ b = hubA := by simpa [Flow] using hf
        obtain ⟨s1, _, h', hc, hmv, hr, rfl⟩ := handle_hub hx
        cases hc
        refine .rebond f s1 h' subs hmv hr fun x hx' => ?_
        cases hubExec_out hr x hx'
        exact ⟨_, _, rfl⟩
      | _ => cases hf
    | disp dm =>
      cases dm with
      | swap x y =>
        obtain ⟨⟨rfl, rfl⟩, rfl⟩ : (a = hubA ∧ b = dispA) ∧ f = [] := by simpa [Flow] using hf
        obtain ⟨_, _, d', hc, hmv, hr, rfl⟩ := handle_disp hx
        cases hc
        cases hmv
        cases dispExec_swap_state hr
        refine .swap x y subs fun z hz => ?_
        cases dispExec_out hr z hz
        rfl
      | dispatch =>
        obtain ⟨⟨rfl, rfl⟩, rfl⟩ : (a = hubA ∧ b = dispA) ∧ f = [] := by simpa [Flow] using hf
        obtain ⟨_, _, d', hc, hmv, hr, rfl⟩ := handle_disp hx
        cases hc
        cases hmv
        obtain ⟨rfl, hms⟩ := dispExec_dispatch hr
        exact .dispatch subs hms
      | _ => cases hf
    | reward rm =>
      cases rm with
      | updateGlobalIndex =>
        obtain ⟨⟨rfl, rfl⟩, rfl⟩ : (a = dispA ∧ b = rewardA) ∧ f = [] := by simpa [Flow] using hf
        obtain ⟨_, _, r', hc, hmv, hr, rfl⟩ := handle_reward hx
        cases hc
        cases hmv
        obtain ⟨rfl, _⟩ := C14_update_records_bank _ _ _ _ _ _ _ _ hr
        exact .index r' hr
      | _ => cases hf
    | swapDenom src amt dst rcv =>
      cases rcv with
      | some _ => cases hf
      | none =>
        obtain rfl : a = dispA := by simpa [Flow] using hf
        obtain ⟨s1, hmv, r⟩ := handle_wasm hx
        cases r with
        | swap _ _ _ _ p _ _ hs hms =>
          subst hs hms
          refine .swapCall swapA src amt dst f s' _ (by decide) hmv ?_
          split
          · exact List.forall_mem_nil _
          · exact List.forall_mem_singleton.mpr rfl
        | sink _ hs hms =>
          subst hs hms
          exact .swapCall sinkA src amt dst f s' [] (by decide) hmv (List.forall_mem_nil _)
    | _ => cases hf
  | _ => cases hf

theorem Wired19.of_same {s s' : Sys} (w : Wired19 s) (hh : s'.hub.dispatcher = s.hub.dispatcher)
    (hd : s'.disp = s.disp) (hw : s'.chain.withdrawAddr = s.chain.withdrawAddr) : Wired19 s' :=
  ⟨hh.trans w.hubDisp, by rw [hd]; exact w.dispHub, by rw [hd]; exact w.dispRw, by rw [hd]; exact w.keeper,
    by rw [hw]; exact w.wa⟩

theorem Wired19.dispatched {s : Sys} (w : Wired19 s) {st b : Nat} {subs : List Msg}
    (hms : dispatchMsgs s.disp dispA st b = .ok subs) :
    ∃ pays re, subs = pays ++ re ++ [uMsg] ∧
      (∀ x ∈ pays, ∃ rcv dn a, x = Msg.bankSend dispA rcv dn a ∧ rcv ≠ hubA ∧ (s.disp.keeper ≠ dispA → rcv ≠ dispA)) ∧
      (∀ x ∈ re, ∃ f, x = Msg.wasm dispA hubA (.hub .bondRewards) f) ∧ re.length ≤ 1 := by
  obtain ⟨pays, re, h, hp, hre⟩ := dispatchMsgs_shape hms
  rw [w.dispRw] at h
  rw [w.dispHub] at hre
  refine ⟨pays, re, h, fun x hx => ?_, hre⟩
  obtain ⟨rcv, dn, a, rfl, hr⟩ := hp x hx
  refine ⟨rcv, dn, a, rfl, ?_⟩
  rcases hr with rfl | rfl
  · exact ⟨w.keeper, id⟩
  · rw [w.dispRw]; exact ⟨by decide, fun _ => by decide⟩

theorem flow_step (s s' : Sys) (m : Msg) (subs : List Msg) (w : Wired19 s) (hf : Flow m = true)
    (hx : s.handle m = .ok (s', subs)) :
    AllFlow subs ∧ Wired19 s' ∧ s'.bsei = s.bsei ∧ s'.stsei = s.stsei ∧ s'.reg = s.reg ∧ s'.disp = s.disp ∧
    ((s'.hub = s.hub ∧ ∀ sender funds, m ≠ .wasm sender hubA (.hub .bondRewards) funds) ∨
      ∃ s1 sender funds, m = .wasm sender hubA (.hub .bondRewards) funds ∧
        s.moveFunds sender hubA funds = .ok s1 ∧ s1.hub = s.hub ∧
        hubExec s.hub s1.hubEnv sender funds .bondRewards = .ok (s'.hub, subs)) := by
  cases flow_ran hf hx with
  | withdraw | delegate | index =>
    exact ⟨List.forall_mem_nil _, w.of_same rfl rfl rfl, rfl, rfl, rfl, rfl, .inl ⟨rfl, nofun⟩⟩
  | swap _ _ _ hms => exact ⟨fun x hx' => pre_flow (hms x hx'), w, rfl, rfl, rfl, rfl, .inl ⟨rfl, nofun⟩⟩
  | dispatch _ hms =>
    refine ⟨?_, w, rfl, rfl, rfl, rfl, .inl ⟨rfl, nofun⟩⟩
    obtain ⟨pays, re, rfl, hp, hre, _⟩ := w.dispatched hms
    refine AllFlow.append (AllFlow.append (fun x hx' => ?_) fun x hx' => ?_) (List.forall_mem_singleton.mpr rfl)
    · obtain ⟨rcv, dn, a, rfl, h1, _⟩ := hp x hx'
      simp [Flow, h1]
    · obtain ⟨f, rfl⟩ := hre x hx'
      rfl
  | swapCall _ _ _ _ _ _ _ _ hmv hms =>
    obtain ⟨_, rfl⟩ := moveFunds_chain hmv
    exact ⟨fun x hx' => pre_flow (hms x hx'), w.of_same rfl rfl rfl, rfl, rfl, rfl, rfl, .inl ⟨rfl, nofun⟩⟩
  | send _ _ _ _ _ _ _ hmv =>
    obtain ⟨_, rfl⟩ := bankMove_chain hmv
    exact ⟨List.forall_mem_nil _, w.of_same rfl rfl rfl, rfl, rfl, rfl, rfl, .inl ⟨rfl, nofun⟩⟩
  | rebond f s1 h' _ hmv hr hms =>
    obtain ⟨_, rfl⟩ := moveFunds_chain hmv
    have cfg : h'.dispatcher = s.hub.dispatcher := by
      cases hubExec_route hr with
      | bondRewards _ hb => exact ((bond_frame _ _ _ _ _ _).2.2 hb).2.dispatcher
    refine ⟨fun x hx' => ?_, w.of_same cfg rfl rfl, rfl, rfl, rfl, rfl, .inr ⟨_, _, _, rfl, hmv, rfl, hr⟩⟩
    obtain ⟨v, a, rfl⟩ := hms x hx'
    rfl

theorem FlowRan.idle {s s' : Sys} {m : Msg} {subs : List Msg} (r : FlowRan s s' subs m) (w : Wired19 s) :
    (∃ f, m = .wasm dispA hubA (.hub .bondRewards) f) ∨ (∃ v a, m = .delegate hubA v a) ∨
    (s'.hub = s.hub ∧ s'.chain.bank hubA 0 = s.chain.bank hubA 0 ∧ s'.chain.deleg = s.chain.deleg ∧
      s'.chain.delegSet = s.chain.delegSet ∧ delSum [m] = 0 ∧ delSum subs = 0 ∧ rebonds subs ≤ rebonds [m]) := by
  cases r with
  | rebond f => exact .inl ⟨f, rfl⟩
  | delegate v a => exact .inr (.inl ⟨v, a, rfl⟩)
  | withdraw v bank pending hb =>
    exact .inr (.inr ⟨rfl, (hb hubA 0).trans (if_neg fun h => w.wa h.1.symm), rfl, rfl, rfl, rfl, Nat.zero_le _⟩)
  | swap _ _ _ hms =>
    exact .inr (.inr ⟨rfl, rfl, rfl, rfl, rfl, (pre_counts hms).1, (pre_counts hms).2 ▸ Nat.zero_le _⟩)
  | dispatch _ hms =>
    refine .inr (.inr ⟨rfl, rfl, rfl, rfl, rfl, (noStake_sums subs fun x hx => ?_).1, ?_⟩)
    · cases dispatchMsgs_out hms x hx <;> rfl
    · obtain ⟨pays, re, rfl, hp, _, hre⟩ := w.dispatched hms
      have h0 : rebonds pays = 0 := List.countP_eq_zero.mpr fun x hx => by
        obtain ⟨_, _, _, rfl, _⟩ := hp x hx
        exact Bool.false_ne_true
      rw [rebonds_append, rebonds_append, h0]
      exact Nat.le_trans (Nat.le_of_eq (Nat.zero_add _)) (List.countP_le_length.trans hre)
  | swapCall t _ _ _ f _ _ ht hmv hms =>
    have hbk := moveFunds_other dispA t f s s' hmv hubA (by decide) (Ne.symm ht) 0
    obtain ⟨_, rfl⟩ := moveFunds_chain hmv
    exact .inr (.inr ⟨rfl, hbk, rfl, rfl, rfl, (pre_counts hms).1, (pre_counts hms).2 ▸ Nat.zero_le _⟩)
  | send src dst d amt _ hsrc hdst hmv =>
    have hbk := bankMove_other s s' src dst d amt hmv hubA (by rcases hsrc with rfl | rfl <;> decide)
      (Ne.symm hdst) 0
    obtain ⟨_, rfl⟩ := bankMove_chain hmv
    exact .inr (.inr ⟨rfl, hbk, rfl, rfl, rfl, rfl, Nat.zero_le _⟩)
  | index => exact .inr (.inr ⟨rfl, rfl, rfl, rfl, rfl, rfl, Nat.zero_le _⟩)

theorem pre_step {s s' : Sys} {m : Msg} {subs : List Msg} (hf : Flow m = true) (hp : Pre m = true)
    (hx : s.handle m = .ok (s', subs)) : ∀ x ∈ subs, Pre x = true := by
  cases flow_ran hf hx with
  | withdraw | send => exact List.forall_mem_nil _
  | swap _ _ _ hms | swapCall _ _ _ _ _ _ _ _ _ hms => exact hms
  | dispatch | rebond | delegate | index => cases hp

theorem post_step {s s' : Sys} {m : Msg} {subs : List Msg} (hf : Flow m = true) (hp : post m = true)
    (hx : s.handle m = .ok (s', subs)) :
    (∀ x ∈ subs, ∃ v a, x = Msg.delegate hubA v a) ∧
    ∀ d, s'.chain.bank dispA d + sentOf dispA d [m] = s.chain.bank dispA d := by
  cases flow_ran hf hx with
  | send src dst d amt _ _ _ hmv =>
    obtain ⟨rfl, hdst⟩ : src = dispA ∧ dst ≠ dispA := by simpa [post] using hp
    have bs := bankMove_src s s' dispA dst d amt (Ne.symm hdst) hmv
    refine ⟨List.forall_mem_nil _, fun d' => ?_⟩
    by_cases hd : d = d'
    · subst hd; simpa [sentOf] using bs.1
    · simpa [sentOf, hd] using bs.2 d' (Ne.symm hd)
  | rebond f s1 _ _ hmv _ hms =>
    refine ⟨hms, fun d => ?_⟩
    simp only [sentOf, if_true, Nat.add_zero]
    exact moveFunds_out_eq dispA hubA (by decide) f s s1 hmv d
  | delegate | index => exact ⟨List.forall_mem_nil _, fun _ => rfl⟩
  | withdraw | swap | dispatch | swapCall => cases hp

/-- `s0` = the state the transaction started in -/
structure UgiInv (s0 s : Sys) (q : List Msg) : Prop where
  wired : Wired19 s
  flow : AllFlow q
  bsei : s.bsei = s0.bsei
  stsei : s.stsei = s0.stsei
  reg : s.reg = s0.reg
  claims : KeepsClaims s0.hub s.hub
  prev : s.hub.prevHubBalance = s0.hub.prevHubBalance
  bank : s.chain.bank hubA 0 = s0.chain.bank hubA 0 + delSum q

theorem UgiInv.step {s0 s s' : Sys} {m : Msg} {rest subs : List Msg}
    (inv : UgiInv s0 s (m :: rest)) (hx : s.handle m = .ok (s', subs)) : UgiInv s0 s' (subs ++ rest) := by
  have hf : Flow m = true := inv.flow m (List.mem_cons_self ..)
  obtain ⟨hsub, w', hb, ht, hg, _, _⟩ := flow_step s s' m subs inv.wired hf hx
  have hbank : s.chain.bank hubA 0 = s0.chain.bank hubA 0 + (delSum [m] + delSum rest) := by
    rw [← delSum_append]; exact inv.bank
  have fin : KeepsClaims s0.hub s'.hub → s'.hub.prevHubBalance = s0.hub.prevHubBalance →
      s'.chain.bank hubA 0 + delSum [m] = s.chain.bank hubA 0 + delSum subs → UgiInv s0 s' (subs ++ rest) := by
    intro k p bk
    refine ⟨w', hsub.append fun x h => inv.flow x (List.mem_cons_of_mem _ h), hb.trans inv.bsei,
      ht.trans inv.stsei, hg.trans inv.reg, k, p, ?_⟩
    rw [delSum_append]; omega
  have r := flow_ran hf hx
  rcases r.idle inv.wired with ⟨f, rfl⟩ | ⟨v, amt, rfl⟩ | ⟨hh, hbk, _, _, h1, h2, _⟩
  · cases r with
    | rebond f s1 h' _ hmv hr hms =>
      -- the attached coins arrive and exactly as much is about to be delegated
      have hin := moveFunds_in_eq dispA hubA (by decide) f s s1 hmv 0
      obtain ⟨_, rfl⟩ := moveFunds_chain hmv
      cases hubExec_route hr with
      | bondRewards _ hb =>
        obtain ⟨p, st, _, hpay, hst, hd, rfl⟩ := bondR_spec _ _ _ _ _ _ hb
        have sbk := (actualState_spec _ st _ hst).1
        refine fin (inv.claims.trans ((actualState_keeps _ st _ hst).trans ⟨⟨rfl, rfl, rfl, rfl, rfl, rfl, rfl⟩, rfl⟩))
          (sbk.prev.trans inv.prev) ?_
        rw [(delegs_stake _ _ p subs rfl hd).2.1, ← paymentOf_funds f p hpay]
        exact hin
  · cases r with
    | delegate v amt hle =>
      refine fin inv.claims inv.prev ?_
      show upd (s.chain.bank hubA) 0 (s.chain.bank hubA 0 - amt) 0 + (amt + 0) = s.chain.bank hubA 0 + 0
      rw [upd_same]; omega
  · refine fin ?_ ?_ (by omega)
    · rw [hh]; exact inv.claims
    · rw [hh]; exact inv.prev

theorem ugi_start {s s' : Sys} {sender : Addr} (w : Wired19 s)
    (hx : Sys.run 400 s [.wasm sender hubA (.hub .updateGlobalIndex) []] = .ok s') :
    ∃ pre, (∀ x ∈ pre, Pre x = true) ∧
      (∀ v ∈ valUniverse, s.chain.delegSet v = true → Msg.withdrawReward hubA v ∈ pre) ∧
      Sys.run 399 { s with hub := { s.hub with lastIndexMod := s.hubEnv.now } } (pre ++ [dMsg]) = .ok s' := by
  obtain ⟨s1, subs, h1, hrun⟩ := run_ok_cons hx
  obtain ⟨_, _, h', hc, hmv, hr, rfl⟩ := handle_hub h1
  cases hc
  cases hmv
  cases hubExec_route hr with
  | updateGlobalIndex _ hu =>
    obtain ⟨dsp, hdsp, _, rfl, rfl⟩ := updateGlobal_spec hu
    cases w.hubDisp.symm.trans hdsp
    rw [List.append_nil] at hrun
    refine ⟨s.hubEnv.delegations.map (fun d => Msg.withdrawReward hubA d.1) ++
      [.wasm hubA dispA (.disp (.swap s.hub.bBond s.hub.sBond)) []], ?_, fun v hu hv => ?_,
      by rw [List.append_assoc]; exact hrun⟩
    · refine List.forall_mem_append.mpr ⟨fun x hx' => ?_, List.forall_mem_singleton.mpr rfl⟩
      obtain ⟨d, _, rfl⟩ := List.mem_map.mp hx'
      rfl
    · refine List.mem_append_left _ (List.mem_map.mpr ⟨(v, s.chain.deleg v), ?_, rfl⟩)
      show (v, s.chain.deleg v) ∈ s.delegationsOf hubA
      unfold Sys.delegationsOf
      rw [if_pos rfl]
      exact List.mem_map.mpr ⟨v, List.mem_filter.mpr ⟨hu, hv⟩, rfl⟩

theorem UgiInv.start {s : Sys} (w : Wired19 s) (t : Nat) {pre : List Msg} (hpre : ∀ x ∈ pre, Pre x = true) :
    UgiInv s { s with hub := { s.hub with lastIndexMod := t } } (pre ++ [dMsg]) :=
  ⟨w.of_same rfl rfl rfl,
    AllFlow.append (fun x hx => pre_flow (hpre x hx)) (List.forall_mem_singleton.mpr rfl), rfl, rfl, rfl,
    ⟨⟨rfl, rfl, rfl, rfl, rfl, rfl, rfl⟩, rfl⟩, rfl, by rw [delSum_append, (pre_counts hpre).1]; rfl⟩

/-- **The whole UpdateGlobalIndex transaction, on the hub's side.** If the transaction succeeds — the
    hub's handler, every reward withdrawal, the dispatcher's swap and dispatch with the swap-contract
    calls, the keeper and reward-contract transfers, BondRewards with its delegations, the reward
    contract's index update — then at the end: both token ledgers are exactly as before (nothing is
    minted, burnt or moved), the registry is untouched, every unbonding claim, the batch history and
    the open batch are untouched, `prev_hub_balance` is unchanged, and the hub's liquid staking-denom
    balance is exactly what it was (what BondRewards brought in was delegated in full). -/
theorem C19_end_to_end (s s' : Sys) (sender : Addr) (w : Wired19 s)
    (hx : Sys.run 400 s [.wasm sender hubA (.hub .updateGlobalIndex) []] = .ok s') :
    s'.bsei = s.bsei ∧ s'.stsei = s.stsei ∧ s'.reg = s.reg ∧ KeepsClaims s.hub s'.hub ∧
    s'.hub.prevHubBalance = s.hub.prevHubBalance ∧ s'.chain.bank hubA 0 = s.chain.bank hubA 0 := by
  obtain ⟨pre, hpre, _, hrun⟩ := ugi_start w hx
  have fin := run_inv2 (UgiInv s) (fun _ _ _ _ _ inv h => inv.step h) 399 _ _ s' (UgiInv.start w _ hpre) hrun
  exact ⟨fin.bsei, fin.stsei, fin.reg, fin.claims, fin.prev, fin.bank.trans (Nat.add_zero _)⟩

structure DeliverInv (s0 s : Sys) (q : List Msg) : Prop where
  base : UgiInv s0 s q
  cfg : s.disp = s0.disp
  pend : ∀ v ∈ valUniverse, s0.chain.delegSet v = true →
    (∀ d ∈ ([0, 1, 2] : List Denom), s.chain.pending v d = 0) ∨ Msg.withdrawReward hubA v ∈ q
  phase : (∃ pre, q = pre ++ [dMsg] ∧ ∀ x ∈ pre, Pre x = true) ∨
    ((∀ x ∈ q, post x = true) ∧
      ∀ d, d = s0.disp.stDenom ∨ d = s0.disp.bDenom → s.chain.bank dispA d = sentOf dispA d q)

theorem DeliverInv.step {s0 s s' : Sys} {m : Msg} {rest subs : List Msg}
    (hk : s0.disp.keeper ≠ dispA) (hrate : s0.disp.keeperRate ≤ D) (hden : s0.disp.stDenom ≠ s0.disp.bDenom)
    (inv : DeliverInv s0 s (m :: rest)) (hx : s.handle m = .ok (s', subs)) : DeliverInv s0 s' (subs ++ rest) := by
  have hf : Flow m = true := inv.base.flow m (List.mem_cons_self ..)
  have w := inv.base.wired
  have hc0 := inv.cfg
  refine ⟨inv.base.step hx, (flow_step s s' m subs w hf hx).2.2.2.2.2.1.trans hc0, fun v hu hv => ?_, ?_⟩
  · rcases inv.pend v hu hv with h0 | h0
    · -- withdrawn already: nothing accrues inside a transaction
      refine Or.inl fun d hd => ?_
      cases m with
      | withdrawReward who v' =>
        obtain ⟨_, _, _, _, pending, rfl, _, hp⟩ := handle_withdrawReward hx
        refine (hp v d).trans ?_
        split
        · rfl
        · exact h0 d hd
      | _ => rw [handle_pending s s' _ subs hx nofun]; exact h0 d hd
    · rcases List.mem_cons.mp h0 with rfl | h1
      · exact Or.inl (C19_withdraw_reward_pays_all s s' v subs hx).2.1
      · exact Or.inr (List.mem_append_right _ h1)
  · rcases inv.phase with ⟨pre, hq, hpre⟩ | ⟨hpost, hbal⟩
    · cases pre with
      | cons p pre' =>
        -- still before the dispatch: it stays last
        cases hq
        refine Or.inl ⟨subs ++ pre', (List.append_assoc ..).symm, List.forall_mem_append.mpr
          ⟨pre_step hf (hpre m (List.mem_cons_self ..)) hx, fun x h => hpre x (List.mem_cons_of_mem _ h)⟩⟩
      | nil =>
        -- the dispatch itself: what it emits adds up to exactly what the dispatcher holds
        cases hq
        cases flow_ran hf hx with
        | dispatch _ hms =>
          obtain ⟨ms, h1, h2, h3, _⟩ := C17_dispatch_conserves s.disp dispA (s.chain.bank dispA s.disp.stDenom)
            (s.chain.bank dispA s.disp.bDenom) (by rw [hc0]; exact hrate) (by rw [hc0]; exact hden)
          cases hms.symm.trans h1
          rw [List.append_nil, ← hc0]
          refine Or.inr ⟨?_, fun d hd => by rcases hd with rfl | rfl; exact h3.symm; exact h2.symm⟩
          obtain ⟨pays, re, rfl, hp, hre, _⟩ := w.dispatched hms
          refine List.forall_mem_append.mpr ⟨List.forall_mem_append.mpr ⟨fun x hx' => ?_, fun x hx' => ?_⟩,
            List.forall_mem_singleton.mpr rfl⟩
          · obtain ⟨rcv, dn, a, rfl, _, h2⟩ := hp x hx'
            simp [post, h2 (hc0 ▸ hk)]
          · obtain ⟨f, rfl⟩ := hre x hx'
            rfl
    · -- after the dispatch: every message takes from the dispatcher exactly what it names
      obtain ⟨hdel, hout⟩ := post_step hf (hpost m (List.mem_cons_self ..)) hx
      refine Or.inr ⟨List.forall_mem_append.mpr ⟨fun x h => ?_, fun x h => hpost x (List.mem_cons_of_mem _ h)⟩,
        fun d hd => ?_⟩
      · obtain ⟨v, a, rfl⟩ := hdel x h
        rfl
      · have hz : sentOf dispA d subs = 0 := sentOf_notFrom dispA d subs fun x h => by
          obtain ⟨v, a, rfl⟩ := hdel x h
          exact (by decide : hubA ≠ dispA)
        have h1 := hbal d hd
        have h2 := hout d
        rw [show m :: rest = [m] ++ rest from rfl, sentOf_append] at h1
        rw [sentOf_append, hz]
        omega

theorem DeliverInv.start {s : Sys} (w : Wired19 s) (t : Nat) {pre : List Msg} (hpre : ∀ x ∈ pre, Pre x = true)
    (hw : ∀ v ∈ valUniverse, s.chain.delegSet v = true → Msg.withdrawReward hubA v ∈ pre) :
    DeliverInv s { s with hub := { s.hub with lastIndexMod := t } } (pre ++ [dMsg]) :=
  ⟨.start w t hpre, rfl, fun v hu hv => .inr (List.mem_append_left _ (hw v hu hv)), .inl ⟨pre, rfl, hpre⟩⟩

/-- **The whole UpdateGlobalIndex transaction, the delivery clauses.** If the transaction succeeds
    in a wired system (keeper rate at most 1, the two reward denoms distinct, the keeper not the
    dispatcher itself), then at the end every reward that was pending on a validator the hub
    delegated to has been withdrawn, and the dispatcher holds nothing of either reward denom: every
    coin it held or received was sent on. -/
theorem C19_end_to_end_delivery (s s' : Sys) (sender : Addr) (w : Wired19 s)
    (hk : s.disp.keeper ≠ dispA) (hrate : s.disp.keeperRate ≤ D) (hden : s.disp.stDenom ≠ s.disp.bDenom)
    (hx : Sys.run 400 s [.wasm sender hubA (.hub .updateGlobalIndex) []] = .ok s') :
    (∀ v ∈ valUniverse, s.chain.delegSet v = true → ∀ d ∈ ([0, 1, 2] : List Denom), s'.chain.pending v d = 0) ∧
    s'.chain.bank dispA s.disp.stDenom = 0 ∧ s'.chain.bank dispA s.disp.bDenom = 0 := by
  obtain ⟨pre, hpre, hw, hrun⟩ := ugi_start w hx
  have fin := run_inv2 (DeliverInv s) (fun _ _ _ _ _ inv h => inv.step hk hrate hden h) 399 _ _ s'
    (DeliverInv.start w _ hpre hw) hrun
  rcases fin.phase with ⟨pre, hq, _⟩ | ⟨_, hbal⟩
  · cases pre <;> cases hq
  · exact ⟨fun v hu hv => (fin.pend v hu hv).resolve_right List.not_mem_nil, hbal _ (.inl rfl), hbal _ (.inr rfl)⟩

/-! ### The pools' side of the transaction

  The dispatch emits at most one BondRewards; when it runs no Delegate is pending, so (no slash being
  unrecognised at the start) its slashing check changes nothing, the stSei pool grows by the payment
  and Delegate messages for exactly the payment are queued; each Delegate then moves its amount into
  the delegated stake.  In the queue: at most one message is a dispatch or a BondRewards (`once`),
  and none while a Delegate is pending (`excl`). -/

structure PoolInv (s0 s : Sys) (q : List Msg) : Prop where
  base : UgiInv s0 s q
  chain : ChainOK s
  bb : s.hub.bBond = s0.hub.bBond
  pool : s.hub.sBond + totalDelegated s0 = s0.hub.sBond + totalDelegated s + delSum q
  mono : totalDelegated s0 ≤ totalDelegated s
  once : rebonds q ≤ 1
  excl : 0 < delSum q → rebonds q = 0

theorem PoolInv.step {s0 s s' : Sys} {m : Msg} {rest subs : List Msg}
    (hns : s0.hub.bBond + s0.hub.sBond ≤ totalDelegated s0)
    (inv : PoolInv s0 s (m :: rest)) (hx : s.handle m = .ok (s', subs)) : PoolInv s0 s' (subs ++ rest) := by
  have hf : Flow m = true := inv.base.flow m (List.mem_cons_self ..)
  have r := flow_ran hf hx
  have c := inv.chain
  have hbb := inv.bb
  have hmono := inv.mono
  have hpool : s.hub.sBond + totalDelegated s0 = s0.hub.sBond + totalDelegated s + (delSum [m] + delSum rest) := by
    rw [← delSum_append]; exact inv.pool
  have honce : rebonds [m] + rebonds rest ≤ 1 := by
    rw [← rebonds_append]; exact inv.once
  have hexcl : 0 < delSum [m] + delSum rest → rebonds [m] + rebonds rest = 0 := by
    rw [← delSum_append, ← rebonds_append]; exact inv.excl
  rcases r.idle inv.base.wired with ⟨f, rfl⟩ | ⟨v, amt, rfl⟩ | ⟨hh, _, hd, hds, h1, h2, h3⟩
  · cases r with
    | rebond f s1 h' _ hmv hr hms =>
      -- it is the only BondRewards and no Delegate is pending, so the books are within the stake:
      -- the slashing check changes nothing and the payment is booked to the stSei pool alone
      have hr1 : rebonds [Msg.wasm dispA hubA (.hub .bondRewards) f] = 1 := rfl
      have hd1 : delSum [Msg.wasm dispA hubA (.hub .bondRewards) f] = 0 := rfl
      have hbooks : s.hub.bBond + s.hub.sBond ≤ totalDelegated s := by omega
      obtain ⟨_, rfl⟩ := moveFunds_chain hmv
      cases hubExec_route hr with
      | bondRewards _ hb =>
        obtain ⟨p, st, _, _, hst, hd, rfl⟩ := bondR_spec _ _ _ _ _ _ hb
        obtain ⟨q1, q2, _⟩ : st.bBond = s.hub.bBond ∧ st.sBond = s.hub.sBond ∧ _ :=
          C06_no_slash_no_change _ st _ hst ((delegations_sum _ (c.of_eq rfl rfl)).symm ▸ hbooks)
        have dsum := (delegs_stake _ _ p subs rfl hd).2.1
        have hz : rebonds subs = 0 := List.countP_eq_zero.mpr fun x hx' => by
          obtain ⟨v, a, rfl⟩ := hms x hx'
          exact Bool.false_ne_true
        refine ⟨inv.base.step hx, c.of_eq rfl rfl, q1.trans hbb, ?_, hmono, ?_, ?_⟩
        · show st.sBond + p + totalDelegated s0 = s0.hub.sBond + totalDelegated s + delSum (subs ++ rest)
          rw [delSum_append, dsum, q2]; omega
        · rw [rebonds_append]; omega
        · rw [rebonds_append]; omega
  · obtain ⟨_, hz, hv, _, rfl, hs⟩ := handle_delegate hx
    obtain ⟨c', ht⟩ := c.restake (s' := s') hv (b := true) nofun (by rw [hs]) (by rw [hs])
    have hh : s'.hub = s.hub := by rw [hs]
    have hd1 : delSum [Msg.delegate hubA v amt] = amt := rfl
    have hr1 : rebonds [Msg.delegate hubA v amt] = 0 := rfl
    refine ⟨inv.base.step hx, c', by rw [hh]; exact hbb, ?_, by omega, ?_, ?_⟩
    · rw [hh]; show _ = _ + delSum rest; omega
    · show rebonds rest ≤ 1; omega
    · show 0 < delSum rest → rebonds rest = 0; omega
  · have ht : totalDelegated s' = totalDelegated s := by unfold totalDelegated; rw [hd]
    refine ⟨inv.base.step hx, c.of_eq hd hds, by rw [hh]; exact hbb, ?_, by rw [ht]; exact hmono, ?_, ?_⟩
    · rw [delSum_append, hh, ht]; omega
    · rw [rebonds_append]; omega
    · rw [delSum_append, rebonds_append]; omega

/-- the pools' clause as it is proved: the premises on the keeper and the reward denoms are not needed -/
theorem end_to_end_pools {s s' : Sys} {sender : Addr} (w : Wired19 s) (c : ChainOK s)
    (hns : s.hub.bBond + s.hub.sBond ≤ totalDelegated s)
    (hx : Sys.run 400 s [.wasm sender hubA (.hub .updateGlobalIndex) []] = .ok s') :
    s'.hub.bBond = s.hub.bBond ∧
    s'.hub.sBond + totalDelegated s = s.hub.sBond + totalDelegated s' ∧
    totalDelegated s ≤ totalDelegated s' := by
  obtain ⟨pre, hpre, _, hrun⟩ := ugi_start w hx
  have hc := pre_counts hpre
  have start : PoolInv s { s with hub := { s.hub with lastIndexMod := s.hubEnv.now } } (pre ++ [dMsg]) :=
    ⟨.start w _ hpre, c.of_eq rfl rfl, rfl, by rw [delSum_append, hc.1]; exact (Nat.add_zero _).symm, Nat.le_refl _,
      by rw [rebonds_append, hc.2]; decide,
      by rw [delSum_append, hc.1]; exact fun h => absurd h (Nat.lt_irrefl 0)⟩
  have fin := run_inv2 (PoolInv s) (fun _ _ _ _ _ inv h => inv.step hns h) 399 _ _ s' start hrun
  have hpool := fin.pool
  rw [show delSum [] = 0 from rfl, Nat.add_zero] at hpool
  exact ⟨fin.bb, hpool, fin.mono⟩

/-- **The whole UpdateGlobalIndex transaction, the pools.** If no slash is unrecognised when the
    transaction starts (booked stake ≤ delegated stake) and it succeeds, then at the end the bSei pool
    is exactly what it was and the stSei pool has grown by exactly the amount by which the hub's
    delegated stake has grown: what was re-bonded was delegated in full and booked to stSei alone. -/
theorem C19_end_to_end_pools (s s' : Sys) (sender : Addr) (w : Wired19 s) (c : ChainOK s)
    (hk : s.disp.keeper ≠ dispA) (hrate : s.disp.keeperRate ≤ D) (hden : s.disp.stDenom ≠ s.disp.bDenom)
    (hns : s.hub.bBond + s.hub.sBond ≤ totalDelegated s)
    (hx : Sys.run 400 s [.wasm sender hubA (.hub .updateGlobalIndex) []] = .ok s') :
    s'.hub.bBond = s.hub.bBond ∧
    s'.hub.sBond + totalDelegated s = s.hub.sBond + totalDelegated s' ∧
    totalDelegated s ≤ totalDelegated s' :=
  end_to_end_pools w c hns hx

/-! ### The bSei holders' side of the transaction

  The reward contract is touched by exactly one message of the flow — its own index update, which
  the dispatch emits last — so it runs when every transfer has arrived, as the very last message of
  the transaction, and what it records is the contract's final bank balance. -/

def NoUgi (q : List Msg) : Prop := ∀ x ∈ q, ∀ sender rm f, x ≠ Msg.wasm sender rewardA (.reward rm) f

theorem NoUgi.append {x y : List Msg} (h1 : NoUgi x) (h2 : NoUgi y) : NoUgi (x ++ y) :=
  List.forall_mem_append.mpr ⟨h1, h2⟩

theorem pre_noUgi (l : List Msg) (h : ∀ x ∈ l, Pre x = true) : NoUgi l := by
  intro x hx sender rm f he
  have := h x hx
  rw [he] at this; simp [Pre] at this

/-- what the reward contract's index update leaves behind -/
def Recorded (s0 s : Sys) : Prop :=
  (s0.reward.totalBalance = 0 ∧ s.reward = s0.reward) ∨
  (s0.reward.totalBalance ≠ 0 ∧
    s.reward.prevRewardBalance = s.chain.bank rewardA s0.reward.rewardDenom ∧
    s0.reward.prevRewardBalance ≤ s.chain.bank rewardA s0.reward.rewardDenom ∧
    (s0.reward.Inv → s.reward.prevRewardBalance * D + sumOn s0.reward.holders s0.reward.owed <
      sumOn s.reward.holders s.reward.owed + s0.reward.prevRewardBalance * D + s0.reward.totalBalance + 1))

/-- until the last message of the queue — the dispatch, then the index update it emits last — has
    run, nothing calls the reward contract; the index update leaves the queue empty -/
structure RewInv (s0 s : Sys) (q : List Msg) : Prop where
  dl : DeliverInv s0 s q
  rw : (s.reward = s0.reward ∧ ∃ pre last, q = pre ++ [last] ∧ NoUgi pre ∧ (last = dMsg ∨ last = uMsg)) ∨
    (q = [] ∧ Recorded s0 s)

theorem RewInv.step {s0 s s' : Sys} {m : Msg} {rest subs : List Msg}
    (hk : s0.disp.keeper ≠ dispA) (hrate : s0.disp.keeperRate ≤ D) (hden : s0.disp.stDenom ≠ s0.disp.bDenom)
    (inv : RewInv s0 s (m :: rest)) (hx : s.handle m = .ok (s', subs)) : RewInv s0 s' (subs ++ rest) := by
  refine ⟨inv.dl.step hk hrate hden hx, ?_⟩
  have hf : Flow m = true := inv.dl.base.flow m (List.mem_cons_self ..)
  rcases inv.rw with ⟨hr, pre, last, hq, hnu, hl⟩ | ⟨hq, _⟩
  swap
  · cases hq
  cases pre with
  | cons p pre' =>
    -- not the last message: it is no call of the reward contract and emits none
    cases hq
    have hs : NoUgi subs := by
      rcases inv.dl.phase with ⟨pre2, hq2, hpre2⟩ | ⟨hpost, _⟩
      · cases pre2 with
        | nil => cases pre' <;> cases hq2
        | cons p2 pre2' =>
          injection hq2 with e1 _
          subst e1
          exact pre_noUgi subs (pre_step hf (hpre2 m (List.mem_cons_self ..)) hx)
      · intro x hx'
        obtain ⟨v, a, rfl⟩ := (post_step hf (hpost m (List.mem_cons_self ..)) hx).1 x hx'
        nofun
    exact Or.inl ⟨(handle_reward_same hx (hnu m (List.mem_cons_self ..))).trans hr, subs ++ pre', last,
      (List.append_assoc ..).symm, hs.append fun x h => hnu x (List.mem_cons_of_mem _ h), hl⟩
  | nil =>
    cases hq
    rcases hl with rfl | rfl
    · -- the dispatch: the index update is the last thing it emits
      cases flow_ran hf hx with
      | dispatch _ hms =>
        obtain ⟨pays, re, rfl, hp, hre, _⟩ := inv.dl.base.wired.dispatched hms
        refine Or.inl ⟨hr, pays ++ re, uMsg, List.append_nil _,
          NoUgi.append (fun x hx' => ?_) (fun x hx' => ?_), Or.inr rfl⟩
        · obtain ⟨_, _, _, rfl, _⟩ := hp x hx'
          nofun
        · obtain ⟨f, rfl⟩ := hre x hx'
          nofun
    · -- the reward contract's index update itself: the last message of the transaction
      cases flow_ran hf hx with
      | index r' hx' =>
        refine Or.inr ⟨rfl, ?_⟩
        unfold Recorded
        rw [← hr]
        rcases (C14_update_records_bank _ _ _ _ _ _ _ _ hx').2 with ⟨hz, he⟩ | ⟨hz, h1, h2⟩
        · exact Or.inl ⟨hz, he⟩
        · exact Or.inr ⟨hz, h1, h2, fun hinv => C14_update_dust _ _ _ _ _ _ _ _ hinv hx'⟩

/-- the holders' clause as it is proved: under the premises of the delivery clauses alone -/
theorem end_to_end_holders {s s' : Sys} {sender : Addr} (w : Wired19 s)
    (hk : s.disp.keeper ≠ dispA) (hrate : s.disp.keeperRate ≤ D) (hden : s.disp.stDenom ≠ s.disp.bDenom)
    (hx : Sys.run 400 s [.wasm sender hubA (.hub .updateGlobalIndex) []] = .ok s') : Recorded s s' := by
  obtain ⟨pre, hpre, hw, hrun⟩ := ugi_start w hx
  have start : RewInv s { s with hub := { s.hub with lastIndexMod := s.hubEnv.now } } (pre ++ [dMsg]) :=
    ⟨.start w _ hpre hw, .inl ⟨rfl, pre, dMsg, rfl, pre_noUgi pre hpre, .inl rfl⟩⟩
  have fin := run_inv2 (RewInv s) (fun _ _ _ _ _ inv h => inv.step hk hrate hden h) 399 _ _ s' start hrun
  rcases fin.rw with ⟨_, pre, _, hq, _⟩ | ⟨_, h⟩
  · -- the queue cannot drain without the index update having run
    cases pre <;> cases hq
  · exact h

/-- **The whole UpdateGlobalIndex transaction, the bSei holders.** Under the premises of
    `C19_end_to_end_pools`, at the end of a successful transaction: with no bSei held anywhere the
    reward contract is exactly as it was; otherwise the balance it has recorded is its whole final
    bank balance in the reward denom — everything delivered during the transaction has been
    booked — and (for a reward state satisfying the C14 invariant) the holders' total claimable
    reward has grown by everything newly recorded, up to less than `total_balance` atomics
    (below one base unit inside the envelope).  Nothing but this one index update touched the reward
    contract, and it ran as the last message of the transaction. -/
theorem C19_end_to_end_holders (s s' : Sys) (sender : Addr) (w : Wired19 s) (c : ChainOK s)
    (hk : s.disp.keeper ≠ dispA) (hrate : s.disp.keeperRate ≤ D) (hden : s.disp.stDenom ≠ s.disp.bDenom)
    (hns : s.hub.bBond + s.hub.sBond ≤ totalDelegated s)
    (hx : Sys.run 400 s [.wasm sender hubA (.hub .updateGlobalIndex) []] = .ok s') :
    Recorded s s' :=
  end_to_end_holders w hk hrate hden hx

/-! Non-vacuity: a wired state with 1000 staked and 500 of pending rewards; the whole update
    succeeds (withdrawal, swap check, dispatch: 25 to the keeper, 475 re-bonded and delegated). -/
def rewardsPending : Sys :=
  { genesisSys with
    chain := { genesisSys.chain with deleg := upd genesisSys.chain.deleg 201 1000,
                                      delegSet := upd genesisSys.chain.delegSet 201 true,
                                      pending := upd genesisSys.chain.pending 201 (upd (genesisSys.chain.pending 201) 0 500) },
    hub := { genesisSys.hub with sBond := 1000 } }

example : Wired19 rewardsPending := ⟨rfl, rfl, rfl, by decide, by decide⟩
example : ∃ s', Sys.run 400 rewardsPending [.wasm 3 hubA (.hub .updateGlobalIndex) []] = .ok s' := ⟨_, rfl⟩
/-- the extra premises of `C19_end_to_end_delivery` hold in that state, its validator is in the
    universe and delegated to, and it did have rewards pending -/
example : rewardsPending.disp.keeper ≠ dispA ∧ rewardsPending.disp.keeperRate ≤ D ∧
    rewardsPending.disp.stDenom ≠ rewardsPending.disp.bDenom ∧ (201 : Addr) ∈ valUniverse ∧
    rewardsPending.chain.delegSet 201 = true ∧ rewardsPending.chain.pending 201 0 = 500 := by decide

/-- the premises of `C19_end_to_end_pools` hold in that state too, and the update re-bonds 475 there:
    the stSei pool and the delegated stake both go from 1000 to 1475 -/
example : ChainOK rewardsPending := by
  have hd : genesisSys.chain.deleg = fun _ => 0 := rfl
  have hs : genesisSys.chain.delegSet = fun _ => false := rfl
  refine ⟨fun v hv => ?_, fun v hv => ?_⟩
  · have : v ≠ 201 := fun h => hv (h ▸ by decide)
    simp [rewardsPending, upd, this, hd]
  · by_cases h : v = 201
    · subst h; simp [rewardsPending, upd] at hv
    · simp [rewardsPending, upd, h, hd]
example : rewardsPending.hub.bBond + rewardsPending.hub.sBond ≤ totalDelegated rewardsPending := by decide
example : ∃ s', Sys.run 400 rewardsPending [.wasm 3 hubA (.hub .updateGlobalIndex) []] = .ok s' ∧
    s'.hub.sBond = 1475 ∧ totalDelegated s' = 1475 ∧ s'.chain.bank dispA 0 = 0 := ⟨_, rfl, by decide, by decide, by decide⟩

/-- a state with bSei holders too: 600 booked to bSei (one holder with 600 mirrored), 400 to stSei,
    500 pending; the premises of `C19_end_to_end_holders` hold, the reward state satisfies the C14
    invariant and is not the trivial no-holder case, and after the update the reward contract has
    recorded its whole bank balance -/
def rewardsPending2 : Sys :=
  { rewardsPending with
    hub := { rewardsPending.hub with bBond := 600, sBond := 400 },
    reward := { rewardsPending.reward with totalBalance := 600, hBal := upd (fun _ => 0) 5 600, holders := [5] } }

example : Wired19 rewardsPending2 := ⟨rfl, rfl, rfl, by decide, by decide⟩
example : rewardsPending2.reward.Inv := by
  have hg : rewardsPending2.reward = { (rewardInit 1 hubA 1 swapA [0, 1]) with
      totalBalance := 600, hBal := upd (fun _ => 0) 5 600, holders := [5] } := rfl
  rw [hg]
  refine ⟨?_, ?_, ?_, ?_, ?_⟩ <;> simp [rewardInit, RewardSt.owed, upd, sumOn]
example : rewardsPending2.reward.totalBalance ≠ 0 ∧
    rewardsPending2.hub.bBond + rewardsPending2.hub.sBond ≤ totalDelegated rewardsPending2 := by decide
example : ∃ s', Sys.run 400 rewardsPending2 [.wasm 3 hubA (.hub .updateGlobalIndex) []] = .ok s' ∧
    s'.reward.prevRewardBalance = s'.chain.bank rewardA 1 ∧ 0 < s'.reward.prevRewardBalance :=
  ⟨_, rfl, by decide, by decide⟩

end Krp
