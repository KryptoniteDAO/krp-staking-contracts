/-
  C18 — Both tokens conserve supply; only the hub mints and burns.
  `Token.WF`: holders duplicate-free, zero balance outside, Σ balances = total_supply.
-/
import Krp.Lemmas.Cw20
import Krp.Init
import Krp.Lemmas.Reach
namespace Krp
open Token

private theorem init_fold (bals : List (Addr × Nat)) (t : Token) (h : t.WF) :
    (bals.foldl (fun t x => { (t.setBal x.1 (t.bal x.1 + x.2)) with supply := t.supply + x.2 }) t).WF ∧
    (bals.foldl (fun t x => { (t.setBal x.1 (t.bal x.1 + x.2)) with supply := t.supply + x.2 }) t).minter = t.minter ∧
    (bals.foldl (fun t x => { (t.setBal x.1 (t.bal x.1 + x.2)) with supply := t.supply + x.2 }) t).hub = t.hub := by
  induction bals generalizing t with
  | nil => exact ⟨h, rfl, rfl⟩
  | cons x xs ih =>
    simp only [List.foldl_cons]
    have w := setBal_wf t h x.1 (t.bal x.1 + x.2) (t.supply + x.2) (by omega)
    have := ih _ w
    exact ⟨this.1, this.2.1, this.2.2⟩

/-- every instantiate message (repeated addresses included) yields a ledger whose balances sum to
    the total supply, with the hub as minter -/
theorem C18_init_wf (legacy : Bool) (hub : Addr) (bals : List (Addr × Nat)) (t : Token)
    (hx : tokInit legacy hub bals = .ok t) : t.WF ∧ t.minter = some hub ∧ t.hub = hub := by
  unfold tokInit at hx
  split at hx
  · cases hx
  · injection hx with hx; subst hx
    have w0 : (emptyToken legacy hub).WF := ⟨by simp [emptyToken], by simp [emptyToken], by simp [emptyToken]⟩
    have := init_fold bals (emptyToken legacy hub) w0
    exact ⟨this.1, by rw [this.2.1]; rfl, by rw [this.2.2]; rfl⟩

/-- the ledger step shared by both wrappers: every successful message of every sender keeps
    Σ balances = supply and the hub address; the minter changes only through UpdateMinter sent by
    the current minter; the supply changes only through Mint by the minter, Burn by the hub on its
    own balance, and BurnFrom within an unexpired allowance; allowance-based moves never exceed the
    allowance and lower it by exactly the amount. -/
theorem C18_core_step (t t' : Token) (b : Block) (sender : Addr) (m : TokMsg) (h : t.WF)
    (hx : t.core b sender m = .ok t') :
    t'.WF ∧ t'.hub = t.hub ∧ (t'.minter ≠ t.minter → t.minter = some sender) ∧
    (match m with
     | .mint _ amt => t.minter = some sender ∧ t'.supply = t.supply + amt
     | .burn amt => sender = t.hub ∧ t'.supply + amt = t.supply ∧ amt ≤ t.bal sender
     | .burnFrom o amt => t'.supply + amt = t.supply ∧ t.allowSet o sender = true ∧
         (t.allowExp o sender).isExpired b = false ∧ amt ≤ t.allowAmt o sender ∧
         t'.allowAmt o sender = t.allowAmt o sender - amt
     | .transferFrom o _ amt => t'.supply = t.supply ∧ t.allowSet o sender = true ∧
         (t.allowExp o sender).isExpired b = false ∧ amt ≤ t.allowAmt o sender ∧
         t'.allowAmt o sender = t.allowAmt o sender - amt
     | .sendFrom o _ amt _ => t'.supply = t.supply ∧ t.allowSet o sender = true ∧
         (t.allowExp o sender).isExpired b = false ∧ amt ≤ t.allowAmt o sender ∧
         t'.allowAmt o sender = t.allowAmt o sender - amt
     | _ => t'.supply = t.supply) := by
  cases m with
  | transfer to amt | send to amt _ =>
    obtain ⟨st, hm⟩ := transfer_step _ _ h _ _ _ hx
    exact ⟨st.wf, st.hub, fun hn => absurd hm hn, st.supply⟩
  | burn amt =>
    obtain ⟨hs, hb⟩ := core_burn hx
    obtain ⟨st, hm, hle⟩ := burn_step _ _ h _ _ hb
    exact ⟨st.wf, st.hub, fun hn => absurd hm hn, hs, st.supply, hle⟩
  | mint to amt =>
    obtain ⟨st, hm, hmin⟩ := mint_step _ _ h _ _ _ hx
    exact ⟨st.wf, st.hub, fun hn => absurd hm hn, hmin, st.supply⟩
  | incAllow sp amt e =>
    obtain ⟨st, hm⟩ := incAllow_step _ _ h _ _ _ _ _ hx
    exact ⟨st.wf, st.hub, fun hn => absurd hm hn, st.supply⟩
  | decAllow sp amt e =>
    obtain ⟨st, hm⟩ := decAllow_step _ _ h _ _ _ _ _ hx
    exact ⟨st.wf, st.hub, fun hn => absurd hm hn, st.supply⟩
  | transferFrom o to amt | sendFrom o to amt _ =>
    obtain ⟨st, hm, ha⟩ := transferFrom_step _ _ h _ _ _ _ _ hx
    exact ⟨st.wf, st.hub, fun hn => absurd hm hn, st.supply, ha⟩
  | burnFrom o amt =>
    obtain ⟨st, hm, ha⟩ := burnFrom_step _ _ h _ _ _ _ hx
    exact ⟨st.wf, st.hub, fun hn => absurd hm hn, st.supply, ha⟩
  | updateMinter n =>
    have hx' : t.updateMinter sender n = .ok t' := hx
    unfold Token.updateMinter at hx'
    split at hx'
    · cases hx'
    · rename_i hm
      cases hx'
      exact ⟨⟨h.nodup, h.zero, h.sum⟩, rfl, fun _ => Classical.not_not.mp hm, rfl⟩
  | updateMarketing => cases hx

/-- bSei wrapper: every successful message is a `core` step (so all of C18_core_step applies), and
    bSei has no UpdateMinter at all: the minter stays the hub forever -/
theorem C18_bsei_step (t t' : Token) (b : Block) (self : Addr) (rw : Res Addr) (hubc sender : Addr)
    (m : TokMsg) (ms : List Msg) (h : t.WF)
    (hx : bseiExec t b self rw hubc sender m = .ok (t', ms)) :
    t.core b sender m = .ok t' ∧ t'.WF ∧ t'.minter = t.minter ∧ t'.hub = t.hub := by
  have hc := bsei_core _ _ _ _ _ _ _ _ _ hx
  have hs := C18_core_step _ _ _ _ _ h hc
  refine ⟨hc, hs.1, ?_, hs.2.1⟩
  cases m with
  | updateMinter n | updateMarketing => cases hx
  | transfer to amt | send to amt _ => exact (transfer_step _ _ h _ _ _ hc).2
  | mint to amt => exact (mint_step _ _ h _ _ _ hc).2.1
  | incAllow sp amt e => exact (incAllow_step _ _ h _ _ _ _ _ hc).2
  | decAllow sp amt e => exact (decAllow_step _ _ h _ _ _ _ _ hc).2
  | transferFrom o to amt | sendFrom o to amt _ => exact (transferFrom_step _ _ h _ _ _ _ _ hc).2.1
  | burnFrom o amt => exact (burnFrom_step _ _ h _ _ _ _ hc).2.1
  | burn amt => exact (burn_step _ _ h _ _ (core_burn hc).2).2.1

/-- stSei wrapper: every successful message is a `core` step -/
theorem C18_stsei_step (t t' : Token) (b : Block) (self hubc sender : Addr)
    (m : TokMsg) (ms : List Msg) (h : t.WF)
    (hx : stseiExec t b self hubc sender m = .ok (t', ms)) :
    t.core b sender m = .ok t' ∧ t'.WF ∧ t'.hub = t.hub ∧ (t'.minter ≠ t.minter → t.minter = some sender) := by
  have hc := stsei_core _ _ _ _ _ _ _ _ hx
  have hs := C18_core_step _ _ _ _ _ h hc
  exact ⟨hc, hs.1, hs.2.1, hs.2.2.1⟩

/-- every burn of stSei, and every allowance burn of bSei, makes the hub refresh its rates in the
    same transaction (a CheckSlashing message to the hub is emitted) -/
theorem C18_burn_refreshes_rates (t t' : Token) (b : Block) (self : Addr) (rw : Res Addr) (hubc sender : Addr)
    (ms : List Msg) :
    (∀ amt, stseiExec t b self hubc sender (.burn amt) = .ok (t', ms) →
        Msg.wasm self t.hub (.hub .checkSlashing) [] ∈ ms) ∧
    (∀ o amt, stseiExec t b self hubc sender (.burnFrom o amt) = .ok (t', ms) →
        Msg.wasm self t.hub (.hub .checkSlashing) [] ∈ ms) ∧
    (∀ o amt, bseiExec t b self rw hubc sender (.burnFrom o amt) = .ok (t', ms) →
        Msg.wasm self t.hub (.hub .checkSlashing) [] ∈ ms) := by
  refine ⟨?_, ?_, ?_⟩
  · intro amt hx; simp only [stseiExec] at hx; exc_norm at hx; exc_split at hx; exact .head _
  · intro o amt hx; simp only [stseiExec] at hx; exc_norm at hx; exc_split at hx; exact .head _
  · intro o amt hx; simp only [bseiExec] at hx; exc_norm at hx; exc_split at hx; exact .tail _ (.head _)

/-! Non-vacuity -/
example : ∃ t, tokInit true 100 [(5, 10), (6, 7), (5, 20)] = .ok t ∧ t.supply = 37 ∧ t.bal 5 = 30 := by
  refine ⟨_, rfl, ?_, ?_⟩ <;> simp [Token.setBal, emptyToken, upd]

/-- **Every reachable state.** From any state in which both ledgers are consistent (in particular
    the instantiated one, `C18_init_wf`), after any history of any length — top-level messages of
    any sender to any contract with everything they trigger, failed transactions, slashing, time,
    reward accrual, donations — both tokens still satisfy Σ balances = total supply, no account
    outside the holder list has a balance, and both still name the same hub. -/
theorem C18_reachable (s : Sys) (l : List Step) (hb : s.bsei.WF) (hs : s.stsei.WF) :
    (s.steps l).bsei.WF ∧ (s.steps l).stsei.WF ∧
    (s.steps l).bsei.hub = s.bsei.hub ∧ (s.steps l).stsei.hub = s.stsei.hub ∧
    (s.steps l).bsei.minter = s.bsei.minter := by
  exact steps_inv
    (fun x => x.bsei.WF ∧ x.stsei.WF ∧ x.bsei.hub = s.bsei.hub ∧ x.stsei.hub = s.stsei.hub ∧
      x.bsei.minter = s.bsei.minter)
    (by
      intro x m x' ms ⟨p1, p2, p3, p4, p5⟩ hx
      cases handle_touch x x' m ms hx with
      | none h _ _ _ => rw [h.bsei, h.stsei]; exact ⟨p1, p2, p3, p4, p5⟩
      | hub _ _ _ _ _ _ _ _ _ b t _ _ _ | reward _ _ _ _ _ _ _ _ _ _ b t _ _ | disp _ _ _ _ _ _ _ _ _ b t _ _
      | reg _ _ _ _ _ _ _ _ _ _ b t _ _ => rw [b, t]; exact ⟨p1, p2, p3, p4, p5⟩
      | bsei _ _ _ _ _ _ hx' _ t =>
        have st := C18_bsei_step _ _ _ _ _ _ _ _ _ p1 hx'
        rw [t]; exact ⟨st.2.1, p2, st.2.2.2.trans p3, p4, st.2.2.1.trans p5⟩
      | stsei _ _ _ _ _ hx' _ b =>
        have st := C18_stsei_step _ _ _ _ _ _ _ _ p2 hx'
        rw [b]; exact ⟨p1, st.2.1, p3, st.2.2.1.trans p4, p5⟩)
    (by
      intro x e hp
      rw [(env_ledgers x e).1, (env_ledgers x e).2.1]
      exact hp)
    l s ⟨hb, hs, rfl, rfl, rfl⟩

/-! Non-vacuity of `C18_reachable`: the genesis state. -/
example : genesisSys.bsei.WF ∧ genesisSys.stsei.WF :=
  ⟨(C18_init_wf true hubA [] _ rfl).1, (C18_init_wf false hubA [] _ rfl).1⟩

end Krp
